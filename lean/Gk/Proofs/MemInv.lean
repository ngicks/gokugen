/-
The representation invariant of `Impl.Mem` (`Inv`) and its preservation by the four state changes `Mem.step` is
made of: `appendTask`, `fixed`, `removed`, and a `replaceTask` that leaves the heap alone. `step_inv`
(Gk.Proofs.MemStep) puts them together.
-/
import Gk.Mem
import Gk.Proofs.Heap
import Gk.Proofs.KeyOrder
import Gk.Proofs.Repo

namespace Gk
namespace Mem

/-! `Mem.lookup` and `replaceTask` are `Repo.lookup` and `Repo.replace` on the task list, so the facts about
them come from `Gk.Proofs.RepoStep` and `Gk.Proofs.Repo`. -/

theorem find_of_mem {ts : List Task} (nd : (ts.map (·.id)).Nodup) {t : Task} (ht : t ∈ ts) :
    ts.find? (·.id == t.id) = some t :=
  find?_key_of_nodup nd ht

def repl (id : String) (f : Task → Task) (t : Task) : Task := if t.id == id then f t else t

theorem replaceTask_eq (ts : List Task) (id : String) (f : Task → Task) :
    replaceTask ts id f = ts.map (repl id f) := rfl

theorem repl_id {id : String} {f : Task → Task} (hf : ∀ t, (f t).id = t.id) (t : Task) :
    (repl id f t).id = t.id := by
  unfold repl; split
  · exact hf t
  · rfl

theorem repl_of_ne {id : String} {f : Task → Task} {t : Task} (h : t.id ≠ id) : repl id f t = t :=
  if_neg (by simpa using h)

theorem repl_of_eq {id : String} {f : Task → Task} {t : Task} (h : t.id = id) : repl id f t = f t :=
  if_pos (by simpa using h)

theorem sched_replaceTask {ts : List Task} {id : String} {f : Task → Task}
    (hf : ∀ t, (f t).id = t.id) (x : String) :
    (∃ t ∈ replaceTask ts id f, t.id = x ∧ t.state = .scheduled) ↔
      ∃ t ∈ ts, t.id = x ∧ (repl id f t).state = .scheduled := by
  simp only [replaceTask_eq, List.mem_map]
  constructor
  · rintro ⟨_, ⟨t, ht, rfl⟩, h1, h2⟩
    exact ⟨t, ht, (repl_id hf t).symm.trans h1, h2⟩
  · rintro ⟨t, ht, h1, h2⟩
    exact ⟨_, ⟨t, ht, rfl⟩, (repl_id hf t).trans h1, h2⟩

theorem keyOf_of_mem {ts : List Task} (nd : (ts.map (·.id)).Nodup) (rank : String → Nat) {t : Task}
    (ht : t ∈ ts) : keyOf ts rank t.id = t.key (rank t.id) := by
  unfold keyOf; rw [find_of_mem nd ht]

theorem lt_replace {ts : List Task} {id : String} {f : Task → Task} (hf : ∀ t, (f t).id = t.id)
    (rank : String → Nat) {a b : String} (ha : a ≠ id) (hb : b ≠ id) :
    lt (replaceTask ts id f) rank a b = lt ts rank a b := by
  have key : ∀ {a}, a ≠ id → keyOf (replaceTask ts id f) rank a = keyOf ts rank a := by
    intro a ha
    unfold keyOf
    rw [show (replaceTask ts id f).find? (·.id == a) = _ from Repo.lookup_replace ⟨ts⟩ id hf a,
      if_neg ha]
    rfl
  unfold lt; rw [key ha, key hb]

theorem lt_append {ts : List Task} {t : Task} {rank rank' : String → Nat} {a b : String}
    (ha : a ∈ ts.map (·.id)) (hb : b ∈ ts.map (·.id)) (hra : rank' a = rank a)
    (hrb : rank' b = rank b) :
    lt (ts ++ [t]) rank' a b = lt ts rank a b := by
  have key : ∀ {a}, a ∈ ts.map (·.id) → rank' a = rank a →
      keyOf (ts ++ [t]) rank' a = keyOf ts rank a := by
    intro a ha hr
    obtain ⟨t0, ht0, rfl⟩ := List.mem_map.1 ha
    unfold keyOf
    rw [List.find?_append]
    cases h : ts.find? (·.id == t0.id) with
    | none => exact absurd ht0 (by simpa using List.find?_eq_none.1 h t0)
    | some t1 => simp [hr]
  unfold lt; rw [key ha hra, key hb hrb]

/-- The heap comparator of `Impl.Mem` is the pull-back of `Key.less` along `keyOf`, hence a strict weak
order whatever the task list and ranks. -/
theorem lt_order (tasks : List Task) (rank : String → Nat) : H.LtOrder (lt tasks rank) where
  irrefl _ := Key.less_irrefl _
  trans _ _ _ h1 h2 := Key.less_trans h1 h2
  ntrans _ _ _ h1 h2 := Key.less_ntrans h1 h2

structure Inv (m : Mem) : Prop where
  ids_nodup : (m.tasks.map (·.id)).Nodup
  heap_nodup : m.heap.arr.toList.Nodup
  heap_mem : ∀ id, id ∈ m.heap.arr.toList ↔ ∃ t ∈ m.tasks, t.id = id ∧ t.state = .scheduled
  is_heap : H.IsHeap (lt m.tasks m.rank) m.heap.arr
  idx_ok : H.IdxOk m.heap
  /-- insertion order = rank order -/
  rank_mono : List.Pairwise (fun a b => m.rank a.id < m.rank b.id) m.tasks
  rank_le : ∀ t ∈ m.tasks, m.rank t.id ≤ m.counter
  no_panic : m.panicked = false

theorem inv_empty : Inv {} where
  ids_nodup := List.nodup_nil
  heap_nodup := by simp [H.empty]
  heap_mem := by intro id; simp [H.empty]
  is_heap := by intro i j hi; simp [H.empty] at hi
  idx_ok := by intro i hi; simp [H.empty] at hi
  rank_mono := List.Pairwise.nil
  rank_le := by intro t ht; cases ht
  no_panic := rfl

theorem Inv.heap_sub_ids {m : Mem} (inv : m.Inv) {a : String} (ha : a ∈ m.heap.arr.toList) :
    a ∈ m.tasks.map (·.id) := by
  obtain ⟨t, ht, rfl, -⟩ := (inv.heap_mem a).1 ha
  exact List.mem_map.2 ⟨t, ht, rfl⟩

theorem Inv.heap_pos {m : Mem} (inv : m.Inv) {id : String} {t : Task} (hl : m.lookup id = some t)
    (hs : t.state = .scheduled) :
    ∃ k, ∃ hk : k < m.heap.arr.size, m.heap.arr[k] = id ∧ (m.heap.idx id).toNat = k ∧
      ¬ m.heap.idx id < 0 := by
  obtain ⟨ht, hid⟩ := Repo.lookup_some (r := m.abs) hl
  obtain ⟨k, hk', e'⟩ := Array.getElem_of_mem
    (Array.mem_toList_iff.1 ((inv.heap_mem id).2 ⟨t, ht, hid, hs⟩))
  refine ⟨k, hk', e', ?_, ?_⟩ <;> rw [← e', inv.idx_ok k hk'] <;> omega

theorem Inv.lookup_of_on_heap {m : Mem} (inv : m.Inv) {id : String} (h : id ∈ m.heap.arr.toList) :
    ∃ t, m.lookup id = some t ∧ t ∈ m.tasks ∧ t.state = .scheduled := by
  obtain ⟨t, ht, rfl, hs⟩ := (inv.heap_mem id).1 h
  exact ⟨t, find_of_mem inv.ids_nodup ht, ht, hs⟩

theorem Inv.not_on_heap {m : Mem} (inv : m.Inv) {id : String} {t : Task} (hl : m.lookup id = some t)
    (hs : t.state ≠ .scheduled) : id ∉ m.heap.arr.toList := by
  intro hmem
  obtain ⟨t2, hl2, -, hs2⟩ := inv.lookup_of_on_heap hmem
  rw [hl] at hl2
  cases hl2
  exact hs hs2

/-- `AddTask`, and each iteration of `Load`: wrap the task with the next insertion rank, append it to the ordered
map, push it onto the heap if it is scheduled. -/
def appendTask (m : Mem) (t : Task) : Mem :=
  let c := m.counter + 1
  let rank := fun x => if x = t.id then c else m.rank x
  let tasks := m.tasks ++ [t]
  { m with counter := c, rank := rank, tasks := tasks,
           heap := if t.state == .scheduled then H.push (lt tasks rank) m.heap t.id else m.heap }

@[simp] theorem appendTask_tasks (m : Mem) (t : Task) : (appendTask m t).tasks = m.tasks ++ [t] := rfl
@[simp] theorem appendTask_counter (m : Mem) (t : Task) : (appendTask m t).counter = m.counter + 1 :=
  rfl
@[simp] theorem appendTask_rank (m : Mem) (t : Task) :
    (appendTask m t).rank = fun x => if x = t.id then m.counter + 1 else m.rank x := rfl
@[simp] theorem appendTask_panicked (m : Mem) (t : Task) : (appendTask m t).panicked = m.panicked :=
  rfl

theorem Inv.append {m : Mem} (inv : m.Inv) (t : Task) (fresh : t.id ∉ m.tasks.map (·.id)) :
    (appendTask m t).Inv := by
  have hrank' : ∀ {a}, a ∈ m.tasks.map (·.id) → (appendTask m t).rank a = m.rank a := fun ha =>
    if_neg fun (e : _ = t.id) => fresh (e ▸ ha)
  have hrank : ∀ {a}, a ∈ m.tasks → (appendTask m t).rank a.id = m.rank a.id := fun ha =>
    hrank' (List.mem_map.2 ⟨_, ha, rfl⟩)
  have hx : t.id ∉ m.heap.arr.toList := fun h => fresh (inv.heap_sub_ids h)
  have hh : H.IsHeap (lt (m.tasks ++ [t]) (appendTask m t).rank) m.heap.arr := by
    refine (H.isHeap_congr fun a b ha hb => ?_).2 inv.is_heap
    have ha := inv.heap_sub_ids (Array.mem_toList_iff.2 ha)
    have hb := inv.heap_sub_ids (Array.mem_toList_iff.2 hb)
    exact lt_append ha hb (hrank' ha) (hrank' hb)
  -- the new heap: the old elements and, if it is scheduled, the new id
  have heap : (appendTask m t).heap.arr.toList.Nodup ∧
      (∀ a, a ∈ (appendTask m t).heap.arr.toList ↔
        (a = t.id ∧ t.state = .scheduled) ∨ a ∈ m.heap.arr.toList) ∧
      H.IsHeap (lt (m.tasks ++ [t]) (appendTask m t).rank) (appendTask m t).heap.arr ∧
      H.IdxOk (appendTask m t).heap := by
    rw [show (appendTask m t).heap = if t.state == .scheduled then
      H.push (lt (m.tasks ++ [t]) (appendTask m t).rank) m.heap t.id else m.heap from rfl]
    split
    · next hs =>
      have pc := H.push_correct (lt_order (m.tasks ++ [t]) (appendTask m t).rank) m.heap t.id hx
        inv.heap_nodup hh inv.idx_ok
      exact ⟨pc.1.nodup_iff.2 (List.nodup_cons.2 ⟨hx, inv.heap_nodup⟩),
        fun a => by rw [pc.1.mem_iff, List.mem_cons, beq_iff_eq.1 hs]; simp, pc.2.1, pc.2.2.1⟩
    · next hs =>
      exact ⟨inv.heap_nodup, fun a => by simp [show t.state ≠ .scheduled by simpa using hs], hh,
        inv.idx_ok⟩
  refine
    { ids_nodup := ?_, heap_nodup := heap.1, heap_mem := fun a => ?_, is_heap := heap.2.2.1,
      idx_ok := heap.2.2.2, rank_mono := ?_, rank_le := ?_, no_panic := inv.no_panic }
  · rw [appendTask_tasks, List.map_append]
    exact nodup_concat inv.ids_nodup fresh
  · rw [heap.2.1, inv.heap_mem a]
    simp only [appendTask_tasks, List.mem_append, List.mem_singleton]
    constructor
    · rintro (⟨rfl, hs⟩ | ⟨t', h1, h2, h3⟩)
      · exact ⟨t, Or.inr rfl, rfl, hs⟩
      · exact ⟨t', Or.inl h1, h2, h3⟩
    · rintro ⟨t', h1 | rfl, h2, h3⟩
      · exact Or.inr ⟨t', h1, h2, h3⟩
      · exact Or.inl ⟨h2.symm, h3⟩
  · rw [appendTask_tasks, List.pairwise_append]
    refine ⟨inv.rank_mono.imp_of_mem fun ha hb hab => ?_, List.pairwise_singleton _ _,
      fun a ha b hb => ?_⟩
    · rwa [hrank ha, hrank hb]
    · obtain rfl := List.mem_singleton.1 hb
      rw [hrank ha]
      exact Nat.lt_of_le_of_lt (inv.rank_le a ha) (by simp)
  · intro t' ht'
    rcases List.mem_append.1 ht' with h | h
    · rw [hrank h]
      exact Nat.le_succ_of_le (inv.rank_le t' h)
    · obtain rfl := List.mem_singleton.1 h
      simp

theorem Inv.replace {m : Mem} (inv : m.Inv) {id : String} {f : Task → Task}
    (hfid : ∀ t, (f t).id = t.id) {h' : H String} (nd' : h'.arr.toList.Nodup)
    (mem' : ∀ x, x ∈ h'.arr.toList ↔ ∃ t ∈ m.tasks, t.id = x ∧ (repl id f t).state = .scheduled)
    (hh' : H.IsHeap (lt (replaceTask m.tasks id f) m.rank) h'.arr) (ok' : H.IdxOk h') :
    Inv { m with tasks := replaceTask m.tasks id f, heap := h' } where
  ids_nodup := (map_id_of_rel (l := m.tasks) fun t _ => repl_id hfid t) ▸ inv.ids_nodup
  heap_nodup := nd'
  heap_mem x := (mem' x).trans (sched_replaceTask hfid x).symm
  is_heap := hh'
  idx_ok := ok'
  rank_mono := by
    show List.Pairwise _ (m.tasks.map (repl id f))
    rw [List.pairwise_map]
    simp only [repl_id hfid]
    exact inv.rank_mono
  rank_le t ht := by
    obtain ⟨t0, ht0, rfl⟩ := List.mem_map.1 ht
    show m.rank (repl id f t0).id ≤ m.counter
    rw [repl_id hfid]
    exact inv.rank_le t0 ht0
  no_panic := inv.no_panic

/-- `UpdateById` after its guard: replace the task, then `heap.Fix(task.Index)` with the comparator
reading the new task list. -/
def fixed (m : Mem) (id : String) (f : Task → Task) : Mem :=
  let tasks := replaceTask m.tasks id f
  let i := m.heap.idx id
  let (h', ok) := if i < 0 then (m.heap, false) else H.fix (lt tasks m.rank) m.heap i.toNat
  { m with tasks := tasks, heap := h', panicked := m.panicked || !ok }

/-- `Cancel` / `MarkAsDispatched` after their guard: `heap.Remove(task.Index)`, then replace the task. -/
def removed (m : Mem) (id : String) (f : Task → Task) : Mem :=
  let i := m.heap.idx id
  let (h', r) := if i < 0 then (m.heap, none) else H.remove (lt m.tasks m.rank) m.heap i.toNat
  { m with heap := h', tasks := replaceTask m.tasks id f, panicked := m.panicked || r.isNone }

@[simp] theorem abs_tasks (m : Mem) : m.abs.tasks = m.tasks := rfl

/-- A scheduled task changes but stays scheduled: its `Index` is a valid position (no panic), the array
is a heap except there for the new comparator, and `Fix` restores it. -/
theorem Inv.fix_update {m : Mem} (inv : m.Inv) {id : String} {t : Task}
    (hl : m.lookup id = some t) (hs : t.state = .scheduled) {f : Task → Task}
    (hfid : ∀ t, (f t).id = t.id) (hfst : ∀ t, (f t).state = t.state) : (fixed m id f).Inv := by
  obtain ⟨k, hk, hak, hk', hneg⟩ := inv.heap_pos hl hs
  have he : H.HeapExcept (lt (replaceTask m.tasks id f) m.rank) m.heap.arr k :=
    H.heapExcept_of_isHeap (lt_order m.tasks m.rank) inv.is_heap fun p q hp hq hpk hqk =>
      lt_replace hfid _ (fun e => hpk (H.nodup_inj inv.heap_nodup hp hk (e.trans hak.symm)))
        (fun e => hqk (H.nodup_inj inv.heap_nodup hq hk (e.trans hak.symm)))
  obtain ⟨f1, f2, f3, f4, -⟩ := H.fix_correct (lt_order (replaceTask m.tasks id f) m.rank) m.heap k he hk
  unfold Mem.fixed
  simp only [if_neg hneg, hk', f1, Bool.not_true, Bool.or_false]
  refine inv.replace hfid (f4.nodup_iff.2 inv.heap_nodup) (fun x => ?_) f2 (f3 inv.heap_nodup inv.idx_ok)
  rw [f4.mem_iff, inv.heap_mem x]
  have hst : ∀ t, (repl id f t).state = t.state := fun t => by
    unfold repl; split
    · exact hfst t
    · rfl
  simp only [hst]

/-- A task leaves the scheduled ones: a heap for the old comparator holding the other elements is one for
the new comparator and the new task list. -/
theorem Inv.replace_unsched {m : Mem} (inv : m.Inv) {id : String} {f : Task → Task}
    (hfid : ∀ t, (f t).id = t.id) (hfst : ∀ t, (f t).state ≠ .scheduled) {h' : H String}
    (nd' : h'.arr.toList.Nodup) (hh' : H.IsHeap (lt m.tasks m.rank) h'.arr) (ok' : H.IdxOk h')
    (mem' : ∀ x, x ∈ h'.arr.toList ↔ x ≠ id ∧ x ∈ m.heap.arr.toList) :
    Inv { m with tasks := replaceTask m.tasks id f, heap := h' } := by
  refine inv.replace hfid nd' (fun x => ?_) ?_ ok'
  · rw [mem', inv.heap_mem x]
    constructor
    · rintro ⟨hx, t, h1, h2, h3⟩
      exact ⟨t, h1, h2, by rwa [repl_of_ne (h2 ▸ hx)]⟩
    · rintro ⟨t, h1, h2, h3⟩
      by_cases e : t.id = id
      · exact absurd (by rwa [repl_of_eq e] at h3) (hfst t)
      · exact ⟨h2 ▸ e, t, h1, h2, by rwa [repl_of_ne e] at h3⟩
  · refine (H.isHeap_congr fun a b ha hb => ?_).2 hh'
    exact lt_replace hfid _ ((mem' a).1 (Array.mem_toList_iff.2 ha)).1
      ((mem' b).1 (Array.mem_toList_iff.2 hb)).1

theorem Inv.remove_unsched {m : Mem} (inv : m.Inv) {id : String} {t : Task}
    (hl : m.lookup id = some t) (hs : t.state = .scheduled) {f : Task → Task}
    (hfid : ∀ t, (f t).id = t.id) (hfst : ∀ t, (f t).state ≠ .scheduled) : (removed m id f).Inv := by
  obtain ⟨k, hk, hak, hk', hneg⟩ := inv.heap_pos hl hs
  obtain ⟨h', e, perm, hh', ok', -, -⟩ :=
    H.remove_correct (lt_order m.tasks m.rank) m.heap k hk inv.heap_nodup inv.is_heap inv.idx_ok
  rw [hak] at e perm
  unfold Mem.removed
  simp only [if_neg hneg, hk', e, Option.isNone_some, Bool.or_false]
  refine inv.replace_unsched hfid hfst (perm.nodup_iff.2 (inv.heap_nodup.erase _)) hh' ok' fun x => ?_
  rw [perm.mem_iff, inv.heap_nodup.mem_erase_iff]

/-- A stored task that is not scheduled changes and stays unscheduled (`MarkAsDone`): the heap is not
concerned. -/
theorem Inv.replace_off_heap {m : Mem} (inv : m.Inv) {id : String} {t : Task}
    (hl : m.lookup id = some t) (hs : t.state ≠ .scheduled) {f : Task → Task}
    (hfid : ∀ t, (f t).id = t.id) (hfst : ∀ t, (f t).state ≠ .scheduled) :
    Inv { m with tasks := replaceTask m.tasks id f } :=
  inv.replace_unsched hfid hfst inv.heap_nodup inv.is_heap inv.idx_ok fun _ =>
    ⟨fun hx => ⟨fun e => inv.not_on_heap hl hs (e ▸ hx), hx⟩, fun h => h.2⟩

end Mem
end Gk
