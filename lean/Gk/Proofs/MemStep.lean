/-
`Mem.step` preserves the invariant, and refines `Repo.step` through `Mem.abs`.
-/
import Gk.Proofs.MemInv
import Gk.Proofs.GetNextMem

namespace Gk
namespace Mem

@[simp] theorem toTask_id (p : Param) (id : String) (now : Time) : (p.toTask id now).id = id := rfl
@[simp] theorem toTask_state (p : Param) (id : String) (now : Time) :
    (p.toTask id now).state = .scheduled := rfl
@[simp] theorem update_id (t : Task) (p : Param) : (t.update p).id = t.id := rfl
@[simp] theorem update_state (t : Task) (p : Param) : (t.update p).state = t.state := rfl

theorem step_add (fl : Flags) (m : Mem) (now : Time) (id : String) (p : Param) :
    step fl m now (.add id p) =
      if !(p.normalize.toTask id now).isValid then (m, .err .invalidTask)
      else (appendTask m (p.normalize.toTask id now), .task (p.normalize.toTask id now)) := rfl

/-- The guarded writes of `Mem.step` are `guarded` (Gk.Proofs.RepoStep) over `Mem`, going on to `fixed`,
`removed` or a plain `replaceTask`. -/
theorem step_update (fl : Flags) (m : Mem) (now : Time) (id : String) (p : Param) :
    step fl m now (.update id p) =
      if !p.validForUpdate then (m, .err .invalidTask)
      else guarded (m.lookup id) m .scheduled errKindMutate (fixed m id fun t => t.update p.normalize) := rfl

theorem removeThen_eq (m : Mem) (id : String) (f : Task → Task) :
    removeThen m id f = guarded (m.lookup id) m .scheduled errKindMutate (removed m id f) := rfl

theorem step_cancel (fl : Flags) (m : Mem) (now : Time) (id : String) :
    step fl m now (.cancel id) =
      guarded (m.lookup id) m .scheduled errKindMutate (removed m id (Ent.setCancel now)) := rfl

theorem step_dispatch (fl : Flags) (m : Mem) (now : Time) (id : String) :
    step fl m now (.dispatch id) =
      guarded (m.lookup id) m .scheduled errKindMutate (removed m id (Ent.setDispatch now)) := rfl

theorem step_done (fl : Flags) (m : Mem) (now : Time) (id : String) (e : Option String) :
    step fl m now (.done id e) =
      guarded (m.lookup id) m .dispatched errKindMarkAsDone
        { m with tasks := replaceTask m.tasks id (Ent.setDone now e) } := rfl

/-- The operations of the in-memory repository (the other three are ent-only). -/
def _root_.Gk.Op.isMem : Op → Bool
  | .revert | .cancelDispatched | .deleteEnded => false
  | _ => true

/-- An `add` uses an id that is not stored yet. -/
def FreshOp (m : Mem) : Op → Prop
  | .add id _ => id ∉ m.tasks.map (·.id)
  | _ => True

theorem step_inv (fl : Flags) {m : Mem} (inv : m.Inv) (now : Time) (op : Op) (fresh : FreshOp m op) :
    (step fl m now op).1.Inv := by
  cases op with
  | add id p =>
    rw [step_add]
    split
    · exact inv
    · exact inv.append _ fresh
  | get id =>
    simp only [step]
    split <;> exact inv
  | update id p =>
    rw [step_update]
    split
    · exact inv
    · exact guarded_ind inv fun t hl hs => inv.fix_update hl hs (fun _ => rfl) (fun _ => rfl)
  | cancel id =>
    rw [step_cancel]
    exact guarded_ind inv fun t hl hs =>
      inv.remove_unsched hl hs (fun _ => rfl) (fun _ => by simp)
  | dispatch id =>
    rw [step_dispatch]
    exact guarded_ind inv fun t hl hs =>
      inv.remove_unsched hl hs (fun _ => rfl) (fun _ => by simp)
  | done id e =>
    rw [step_done]
    refine guarded_ind inv fun t hl hs => inv.replace_off_heap hl (by simp [hs]) ?_ ?_ <;>
      intro t <;> cases e <;> simp [Ent.setDone]
  | find q o l => exact inv
  | next =>
    simp only [step]
    split
    · exact inv
    · next id hid =>
      split
      · exact inv
      · next hl =>
        obtain ⟨t, hl', -⟩ := inv.lookup_of_on_heap (Array.mem_toList_iff.2 (Array.mem_of_getElem? hid))
        rw [hl] at hl'
        cases hl'
  | revert => exact inv
  | cancelDispatched => exact inv
  | deleteEnded => exact inv

theorem Inv.rank_lt_iff {m : Mem} (inv : m.Inv) {i j : Nat} {t t' : Task}
    (hi : m.tasks[i]? = some t) (hj : m.tasks[j]? = some t') :
    j < i ↔ m.rank t'.id < m.rank t.id := by
  have mono := List.pairwise_iff_getElem.1 inv.rank_mono
  obtain ⟨hi', rfl⟩ := List.getElem?_eq_some_iff.1 hi
  obtain ⟨hj', rfl⟩ := List.getElem?_eq_some_iff.1 hj
  refine ⟨mono j i hj' hi', fun h => ?_⟩
  rcases Nat.lt_trichotomy j i with h1 | rfl | h1
  · exact h1
  · exact absurd h (Nat.lt_irrefl _)
  · exact absurd (mono i j hi' hj' h1) (Nat.lt_asymm h)

theorem Inv.getNext_root {m : Mem} (inv : m.Inv) {id : String} (hid : m.heap.arr[0]? = some id) :
    ∃ t, m.lookup id = some t ∧ m.abs.getNext = some t := by
  obtain ⟨h0, hroot⟩ := Array.getElem?_eq_some_iff.1 hid
  obtain ⟨t, hl, ht, hts⟩ := inv.lookup_of_on_heap (Array.mem_toList_iff.2 (Array.mem_of_getElem? hid))
  have hte := (Repo.lookup_some (r := m.abs) hl).2
  refine ⟨t, hl, ?_⟩
  rw [Repo.getNext_some_iff]
  obtain ⟨i, hi?⟩ := List.mem_iff_getElem?.1 ht
  refine ⟨i, hi?, hts, ?_⟩
  intro j t' hj hs'
  have ht' : t' ∈ m.tasks := List.mem_of_getElem? hj
  obtain ⟨k, hk', hak', -⟩ := inv.heap_pos (find_of_mem inv.ids_nodup ht') hs'
  have hmin := H.root_is_min (lt_order m.tasks m.rank) inv.is_heap k hk' h0
  rw [hak', hroot] at hmin
  unfold lt at hmin
  rw [keyOf_of_mem inv.ids_nodup m.rank ht', ← hte, keyOf_of_mem inv.ids_nodup m.rank ht] at hmin
  rw [Key.less_rank_congr t' t (inv.rank_lt_iff hi? hj)]
  exact hmin

theorem Inv.getNext_none {m : Mem} (inv : m.Inv) (h : m.heap.arr[0]? = none) :
    m.abs.getNext = none := by
  rw [Repo.getNext_none_iff]
  intro t ht hs
  have hmem : t.id ∈ m.heap.arr.toList := (inv.heap_mem t.id).2 ⟨t, ht, rfl, hs⟩
  rw [Array.eq_empty_of_size_eq_zero (xs := m.heap.arr) (by simpa using h)] at hmem
  cases hmem

/-- `Impl.Mem` refines `Spec.Repo` through `Mem.abs`, on the operations of the in-memory API. All but
`next` are the same program on the task list; only `next` needs the invariant. -/
theorem refines (fl : Flags) {m : Mem} (inv : m.Inv) (now : Time) (op : Op) (hop : op.isMem = true) :
    (step fl m now op).2 = (Repo.step fl m.abs now op).2 ∧
    (step fl m now op).1.abs = (Repo.step fl m.abs now op).1 := by
  cases op with
  | add id p =>
    rw [step_add]
    simp only [Repo.step]
    split <;> exact ⟨rfl, rfl⟩
  | get id =>
    simp only [step, Repo.step]
    rw [show m.abs.lookup id = m.lookup id from rfl]
    cases m.lookup id <;> exact ⟨rfl, rfl⟩
  | update id p =>
    rw [step_update]
    simp only [Repo.step]
    split
    · exact ⟨rfl, rfl⟩
    · exact guarded_map abs _ m _ _ _
  | cancel id =>
    rw [step_cancel]
    exact guarded_map abs _ m _ _ _
  | dispatch id =>
    rw [step_dispatch]
    exact guarded_map abs _ m _ _ _
  | done id e =>
    rw [step_done]
    exact guarded_map abs _ m _ _ _
  | find q o l => exact ⟨rfl, rfl⟩
  | next =>
    simp only [step, Repo.step]
    cases hid : m.heap.arr[0]? with
    | none =>
      rw [inv.getNext_none hid]
      exact ⟨rfl, rfl⟩
    | some id =>
      obtain ⟨t, hl, hn⟩ := inv.getNext_root hid
      rw [hn]
      simp [hl]
  | revert => cases hop
  | cancelDispatched => cases hop
  | deleteEnded => cases hop

theorem next_out (fl : Flags) {m : Mem} (inv : m.Inv) (now : Time) :
    (step fl m now .next).2 =
      match Repo.getNext m.abs with
      | some t => .task t
      | none => .err .exhausted := by
  rw [(refines fl inv now .next rfl).1]
  simp only [Repo.step]
  cases m.abs.getNext <;> rfl

end Mem
end Gk
