/-
`heap.down`: frame lemmas and heap-order restoration.

`down` is used on two windows of the array: on a prefix `[0, n)` by `Pop`, `Remove` and `Fix`, where
everything above the hole is already in order, and on the whole array by `Init`, where only the pairs
whose parent is at `≥ m` are in order yet. `DownInv` is the one invariant for both: it speaks of the
pairs with parent `≥ m` and child `< n`.
-/
import Gk.Proofs.HeapUp

set_option linter.unusedSectionVars false

namespace Gk
namespace H
variable {α : Type} [DecidableEq α]

/-- Heap order on the pairs whose parent is at `≥ m` and whose child is at `< n`. -/
def HeapR (lt : α → α → Bool) (arr : Array α) (m n : Nat) : Prop :=
  ∀ j (hj : j < arr.size) (h0 : 0 < j), j < n → m ≤ (j-1)/2 →
    lt arr[j] (arr[(j-1)/2]'(Nat.lt_trans (parent_lt h0) hj)) = false

theorem heapR_zero {lt : α → α → Bool} {arr : Array α} {n : Nat} :
    HeapR lt arr 0 n ↔ HeapP lt arr n :=
  ⟨fun h j hj h0 hjn => h j hj h0 hjn (Nat.zero_le _), fun h j hj h0 hjn _ => h j hj h0 hjn⟩

/-- Invariant of `down` at `i` on the window `m`, `n`: the pairs whose parent is not `i` are in order,
and the children of `i` are not smaller than the parent of `i`. -/
def DownInv (lt : α → α → Bool) (arr : Array α) (i m n : Nat) : Prop :=
  (∀ j (hj : j < arr.size) (h0 : 0 < j), j < n → m ≤ (j-1)/2 → (j-1)/2 ≠ i →
      lt arr[j] (arr[(j-1)/2]'(Nat.lt_trans (parent_lt h0) hj)) = false) ∧
  (∀ j (hj : j < arr.size) (h0 : 0 < j) (h0i : 0 < i) (hpi : (j-1)/2 = i), j < n → m ≤ (i-1)/2 →
      lt arr[j] (arr[(i-1)/2]'(Nat.lt_trans (parent_lt h0i)
        (Nat.lt_trans (hpi ▸ parent_lt h0) hj))) = false)

theorem DownInv.of_except {lt : α → α → Bool} {arr : Array α} {i n : Nat}
    (he : HeapExceptP lt arr i n) (hp : ParentOk lt arr i n) : DownInv lt arr i 0 n := by
  refine ⟨fun j hj h0 hjn _ hpi => ?_, fun j hj h0 h0i hpi hjn _ => he.2 j hj h0 hjn hpi h0i⟩
  by_cases hji : j = i
  · subst hji; exact hp hj h0 hjn
  · exact he.1 j hj h0 hjn hji hpi

theorem child_min {lt : α → α → Bool} (o : LtOrder lt) (arr : Array α) (i n : Nat)
    (hn : 2 * i + 1 < n ∧ n ≤ arr.size) (j : Nat) (hj : j < arr.size) (h0 : 0 < j) (hjn : j < n)
    (hp : (j-1)/2 = i) :
    lt arr[j] (arr[child lt arr i n hn]'(Nat.lt_of_lt_of_le (child_spec lt arr i n hn).1 hn.2))
      = false := by
  rcases child_iff.2 ⟨h0, hp⟩ with rfl | rfl
  · unfold child
    split
    · split
      · next hlt => exact o.asymm hlt
      · exact o.irrefl _
    · exact o.irrefl _
  · unfold child
    split
    · split
      · exact o.irrefl _
      · next hlt => simpa using hlt
    · next h2 => exact absurd hjn h2

/-- One step of `down`: the hole moves from `i` to its smallest child `c`. -/
theorem DownInv.step {lt : α → α → Bool} (o : LtOrder lt) {arr : Array α} {i c m n : Nat}
    (hc : c < arr.size) (hi : i < arr.size) (h0 : 0 < c) (hci : (c-1)/2 = i) (hcn : c < n)
    (hmi : m ≤ i) (he : DownInv lt arr i m n)
    (hmin : ∀ j (hj : j < arr.size), 0 < j → j < n → (j-1)/2 = i → lt arr[j] arr[c] = false)
    (hlt : lt arr[c] arr[i] = true) :
    DownInv lt (arr.swap i c hi hc) c m n := by
  have hic : i < c := hci ▸ parent_lt h0
  refine ⟨?_, ?_⟩
  · intro j hj h0j hjn hmp hpc
    have hj' : j < arr.size := by simpa using hj
    simp only [Array.getElem_swap, hpc, if_false]
    by_cases hji : j = i
    · subst hji
      have e1 : (j-1)/2 ≠ j := Nat.ne_of_lt (parent_lt h0j)
      simp only [e1, if_true, if_false]
      exact he.2 c hc h0 h0j hci hcn hmp
    · by_cases hjc : j = c
      · subst hjc
        simp only [hji, hci, if_false, if_true]
        exact o.asymm hlt
      · by_cases hpi : (j-1)/2 = i
        · simp only [hji, hjc, hpi, if_false, if_true]
          exact hmin j hj' h0j hjn hpi
        · simp only [hji, hjc, hpi, if_false]
          exact he.1 j hj' h0j hjn hmp hpi
  · intro j hj h0j _ hpc hjn _
    have hj' : j < arr.size := by simpa using hj
    have hcj : c < j := hpc ▸ parent_lt h0j
    have e1 : j ≠ i := Nat.ne_of_gt (Nat.lt_trans hic hcj)
    have e2 : j ≠ c := Nat.ne_of_gt hcj
    simp only [Array.getElem_swap, e1, e2, hci, if_false, if_true]
    have := he.1 j hj' h0j hjn (hpc ▸ Nat.le_trans hmi (Nat.le_of_lt hic)) (hpc ▸ Nat.ne_of_gt hic)
    simp only [hpc] at this
    exact this

theorem DownInv.stop {lt : α → α → Bool} {arr : Array α} {i m n : Nat}
    (he : DownInv lt arr i m n) (hc : ChildrenOk lt arr i n) : HeapR lt arr m n := by
  intro j hj h0 hjn hmp
  by_cases hpi : (j-1)/2 = i
  · subst hpi; exact hc j hj h0 hjn rfl
  · exact he.1 j hj h0 hjn hmp hpi

theorem down_stop {lt : α → α → Bool} (o : LtOrder lt) {arr : Array α} {i c n : Nat}
    (hc : c < arr.size) (hci : (c-1)/2 = i) (h0 : 0 < c)
    (hmin : ∀ j (hj : j < arr.size), 0 < j → j < n → (j-1)/2 = i → lt arr[j] arr[c] = false)
    (hlt : lt arr[c] (arr[i]'(Nat.lt_trans (hci ▸ parent_lt h0) hc)) = false) :
    ChildrenOk lt arr i n := by
  intro j hj h0j hjn hpi
  exact o.ntrans _ _ _ (hmin j hj h0j hjn hpi) hlt

theorem childrenOk_of_leaf {lt : α → α → Bool} {arr : Array α} {i n : Nat} (h : ¬ 2 * i + 1 < n) :
    ChildrenOk lt arr i n := by
  intro j hj h0j hjn hpi
  rcases child_iff.2 ⟨h0j, hpi⟩ with rfl | rfl
  · exact absurd hjn h
  · exact absurd (Nat.lt_of_succ_lt hjn) h

theorem down_frame (lt : α → α → Bool) (h : H α) (i n : Nat) : Frame h (down lt h i n).1 := by
  fun_induction down lt h i n with
  | case1 h i hn hc hi hj hlt ih => exact (swap_frame h _ _ hi hj).trans ih
  | case2 h i hn hc hi hj hlt => exact Frame.refl _
  | case3 h i hn => exact Frame.refl _

@[simp] theorem down_size (lt : α → α → Bool) (h : H α) (i n : Nat) :
    (down lt h i n).1.arr.size = h.arr.size := (down_frame lt h i n).size_eq

theorem down_snd_ge (lt : α → α → Bool) (h : H α) (i n : Nat) : i ≤ (down lt h i n).2 := by
  fun_induction down lt h i n with
  | case1 h i hn hc hi hj hlt ih => exact Nat.le_trans (Nat.le_of_lt hc.2.1) ih
  | case2 h i hn hc hi hj hlt => exact Nat.le_refl _
  | case3 h i hn => exact Nat.le_refl _

theorem down_get_out (lt : α → α → Bool) (h : H α) (i n : Nat) (k : Nat) (hik : k < i ∨ n ≤ k)
    (hk : k < h.arr.size) (hk' : k < (down lt h i n).1.arr.size) :
    (down lt h i n).1.arr[k] = h.arr[k] := by
  fun_induction down lt h i n with
  | case1 h i hn hc hi hj hlt ih =>
    have hik' : k < child lt h.arr i n hn ∨ n ≤ k := hik.imp (fun h => Nat.lt_trans h hc.2.1) id
    rw [ih hik' (by simpa using hk)]
    exact Array.getElem_swap_of_ne
      (hik.elim Nat.ne_of_lt fun h e => Nat.lt_irrefl _ (Nat.lt_of_lt_of_le (e ▸ Nat.lt_trans hc.2.1 hc.1) h))
      (hik'.elim Nat.ne_of_lt fun h e => Nat.lt_irrefl _ (Nat.lt_of_lt_of_le (e ▸ hc.1) h))
  | case2 h i hn hc hi hj hlt => rfl
  | case3 h i hn => rfl

theorem down_inv {lt : α → α → Bool} (o : LtOrder lt) (h : H α) (i m n : Nat)
    (hmi : m ≤ i) (hn' : n ≤ h.arr.size) (he : DownInv lt h.arr i m n) :
    HeapR lt (down lt h i n).1.arr m n := by
  fun_induction down lt h i n with
  | case1 h i hn hc hi hj hlt ih =>
    obtain ⟨h0, hci⟩ := child_iff.1 hc.2.2
    exact ih (Nat.le_trans hmi (Nat.le_of_lt hc.2.1)) (by simpa using hn')
      (he.step o hj hi h0 hci hc.1 hmi (child_min o h.arr i n hn) hlt)
  | case2 h i hn hc hi hj hlt =>
    obtain ⟨h0, hci⟩ := child_iff.1 hc.2.2
    exact he.stop (down_stop o hj hci h0 (child_min o h.arr i n hn) (by simpa using hlt))
  | case3 h i hn =>
    exact he.stop (childrenOk_of_leaf fun h1 => hn ⟨h1, hn'⟩)

theorem down_heap {lt : α → α → Bool} (o : LtOrder lt) (h : H α) (i n : Nat)
    (hn' : n ≤ h.arr.size) (he : HeapExceptP lt h.arr i n) (hp : ParentOk lt h.arr i n) :
    HeapP lt (down lt h i n).1.arr n :=
  heapR_zero.1 (down_inv o h i 0 n (Nat.zero_le _) hn' (.of_except he hp))

/-- The sift performed by `heap.Fix` and `heap.Remove`: `down`, then `up` if `down` did not move
the element. -/
def sift (lt : α → α → Bool) (h : H α) (i n : Nat) : H α :=
  if (down lt h i n).2 > i then (down lt h i n).1 else up lt (down lt h i n).1 i

theorem sift_frame (lt : α → α → Bool) (h : H α) (i n : Nat) : Frame h (sift lt h i n) := by
  unfold sift
  split
  · exact down_frame lt h i n
  · exact (down_frame lt h i n).trans (up_frame lt _ i)

@[simp] theorem sift_size (lt : α → α → Bool) (h : H α) (i n : Nat) :
    (sift lt h i n).arr.size = h.arr.size := (sift_frame lt h i n).size_eq

theorem sift_get_ge (lt : α → α → Bool) (h : H α) (i n : Nat) (hin : i < n) (k : Nat) (hnk : n ≤ k)
    (hk : k < h.arr.size) (hk' : k < (sift lt h i n).arr.size) :
    (sift lt h i n).arr[k] = h.arr[k] := by
  unfold sift at hk' ⊢
  split
  · exact down_get_out lt h i n k (Or.inr hnk) hk _
  · rw [up_get_gt lt _ i k (Nat.lt_of_lt_of_le hin hnk) (by simpa using hk)]
    exact down_get_out lt h i n k (Or.inr hnk) hk _

/-- If `down` moves the element at `i`, then it was not smaller than its parent (its smaller child is
not), so `down` alone restores the order; if not, its children are in order and `up` does. -/
theorem sift_heap {lt : α → α → Bool} (o : LtOrder lt) (h : H α) (i n : Nat)
    (hin : i < n) (hn : n ≤ h.arr.size) (he : HeapExceptP lt h.arr i n) :
    HeapP lt (sift lt h i n).arr n := by
  unfold sift
  rw [down]
  split
  · next hcn =>
    have hcs := child_spec lt h.arr i n hcn
    obtain ⟨h0, hci⟩ := child_iff.1 hcs.2.2
    have hc := Nat.lt_of_lt_of_le hcs.1 hcn.2
    simp only
    split
    · next hlt =>
      rw [if_pos (Nat.lt_of_lt_of_le hcs.2.1 (down_snd_ge ..))]
      have hp : ParentOk lt h.arr i n := fun _ h0i _ =>
        o.ntrans _ _ _ (o.asymm hlt) (he.2 _ hc h0 hcs.1 hci h0i)
      exact heapR_zero.1 (down_inv o _ _ 0 n (Nat.zero_le _) (by simpa using hn)
        ((DownInv.of_except he hp).step o hc _ h0 hci hcs.1 (Nat.zero_le _)
          (child_min o h.arr i n hcn) hlt))
    · next hlt =>
      rw [if_neg (Nat.lt_irrefl _)]
      exact up_heap o h i n hin hn he
        (down_stop o hc hci h0 (child_min o h.arr i n hcn) (by simpa using hlt))
  · next hcn =>
    rw [if_neg (Nat.lt_irrefl _)]
    exact up_heap o h i n hin hn he (childrenOk_of_leaf fun h1 => hcn ⟨h1, hn⟩)

end H
end Gk
