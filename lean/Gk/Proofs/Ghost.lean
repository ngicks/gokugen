/-
Ghost instrumentation for C13: the run that remembers, for every id, the task record as it was
immediately before its last successful `dispatch`, and the invariant that ties every dispatched task
to that record.
-/
import Gk.Proofs.Repo
namespace Gk

abbrev Ghost := String → Option Task

def Repo.gstep (rg : Repo × Ghost) (now : Time) (op : Op) : Repo × Ghost :=
  ((Repo.step {} rg.1 now op).1,
   match op, (Repo.step {} rg.1 now op).2 with
   | .dispatch id, .ok => fun i => if i = id then rg.1.lookup id else rg.2 i
   | _, _ => rg.2)

def Repo.grun : Repo × Ghost → List (Time × Op) → Repo × Ghost
  | rg, [] => rg
  | rg, (now, op) :: rest => Repo.grun (Repo.gstep rg now op) rest

theorem Repo.grun_fst (rg : Repo × Ghost) (hist : List (Time × Op)) :
    (Repo.grun rg hist).1 = Repo.run {} rg.1 hist := by
  induction hist generalizing rg with
  | nil => rfl
  | cons x rest ih => obtain ⟨now, op⟩ := x; exact ih _

/-- Invariant: every dispatched task is its remembered record with only `state` and
`dispatched_at` changed (nothing but mark-as-done touches a dispatched task). -/
def GhostInv (rg : Repo × Ghost) : Prop :=
  rg.1.WF ∧ ∀ t ∈ rg.1.tasks, t.state = .dispatched →
    ∃ t0, rg.2 t.id = some t0 ∧ t0.state = .scheduled ∧ t0.dispatchedAt = none ∧
      t = { t0 with state := .dispatched, dispatchedAt := t.dispatchedAt }

theorem dispatched_mem_of_step {r : Repo} (h : r.WF) {now : Time} {op : Op}
    (hl : op.isLifecycle = true) (hd : ∀ id, op ≠ .dispatch id) {t' : Task}
    (ht' : t' ∈ (Repo.step {} r now op).1.tasks) (hs : t'.state = .dispatched) : t' ∈ r.tasks := by
  have hst := step_stepped {} r now op
  generalize Repo.step {} r now op = ro at hst ht'
  cases hst with
  | refused | nilErr | got | found => exact ht'
  | added =>
    rcases List.mem_append.mp ht' with hm | hm
    · exact hm
    · rw [List.mem_singleton.mp hm] at hs; cases hs
  | edited he hlk hs0 =>
    rcases h.mem_replace hlk ht' with rfl | ⟨hm, -⟩
    · cases he with
      | update => exact absurd (hs0.symm.trans hs) (by decide)
      | cancel => cases hs
      | dispatch => exact absurd rfl (hd _)
      | done _ e => cases e <;> cases hs
    · exact hm
  | swept g hg => rcases hg with ⟨rfl, -⟩ | ⟨rfl, -⟩ <;> cases hl
  | deleted hop => subst hop; cases hl

theorem GhostInv.step {rg : Repo × Ghost} (h : GhostInv rg) {now : Time} {op : Op}
    (hf : op.fresh rg.1) (hl : op.isLifecycle = true) : GhostInv (Repo.gstep rg now op) := by
  obtain ⟨r, g⟩ := rg
  obtain ⟨hwf, hg⟩ := h
  simp only at hwf hg hf
  refine ⟨step_wf hwf hf, ?_⟩
  cases op with
  | dispatch id =>
    simp only [Repo.gstep, Repo.step]
    rw [mutateScheduled_spec hwf]
    cases hlk : r.lookup id with
    | none => exact hg
    | some t0 =>
      have hc := hwf.consistent_of_lookup hlk
      cases hs0 : t0.state <;> simp only [hs0] <;> try exact hg
      intro t' ht' hs
      rcases hwf.mem_replace hlk ht' with rfl | ⟨hm, hne⟩
      · refine ⟨t0, by simp [(Repo.lookup_some hlk).2, hlk], hs0, ?_, rfl⟩
        simp only [Task.consistent, hs0, Bool.and_eq_true, Option.isNone_iff_eq_none] at hc
        exact hc.1.1.2
      · simp only [hne, if_false]
        exact hg t' hm hs
  | _ =>
    intro t' ht' hs
    exact hg t' (dispatched_mem_of_step (now := now) hwf hl (fun _ h => by cases h) ht' hs) hs

theorem GhostInv.init : GhostInv ({}, fun _ => none) :=
  ⟨Repo.WF_empty, fun _ ht => by cases ht⟩

theorem GhostInv.run {rg : Repo × Ghost} (h : GhostInv rg) {hist : List (Time × Op)}
    (hh : Repo.FreshHist {} rg.1 hist) (hl : ∀ x ∈ hist, x.2.isLifecycle = true) :
    GhostInv (Repo.grun rg hist) := by
  induction hist generalizing rg with
  | nil => exact h
  | cons x rest ih =>
    obtain ⟨now, op⟩ := x
    exact ih (h.step hh.1 (hl _ List.mem_cons_self)) hh.2.2
      (fun y hy => hl y (List.mem_cons_of_mem _ hy))

end Gk
