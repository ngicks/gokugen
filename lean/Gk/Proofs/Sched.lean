/-
The scheduler automaton `World.sched` as a transition relation: one constructor per leaf of its
`match` / `if` tree, with the guards as hypotheses and the new world written out, for invariants that need every leaf.
It describes `(w.sched a).1` only: what the call answers is in the equations of `Gk.Proofs.SchedEq`.
-/
import Gk.World
namespace Gk
namespace World

/-- the error a repository call reports: the injected fault, else the repository's refusal -/
def faultErr (f : Fault) (out : Out) : Option Err :=
  if f == .after then some Err.other else (match out with | .err e => some e | _ => none)

theorem faultErr_none_some {out : Out} {e : Err} (h : faultErr .none out = some e) : out = .err e := by
  cases out <;> cases h
  rfl

theorem faultErr_ok {f : Fault} {e : Err} (h : faultErr f .ok = some e) : e = .other := by
  unfold faultErr at h
  split at h <;> cases h
  rfl

theorem faultErr_none {f : Fault} {out : Out} (h : faultErr f out = none) : out.isErr = false := by
  unfold faultErr at h
  split at h
  · cases h
  · cases out <;> first | rfl | cases h

/-- which call the scheduler makes at which program counter -/
inductive Arm : Pc → SAct → Prop
  | cancelCtx (p : Pc) : Arm p .cancelCtx
  | beginStep : Arm .idle .beginStep
  | lastErr0 : Arm .s_lastErr0 .lastTimerErr
  | stop : Arm .s_stop .stopTimer
  | start (hf : Option Err) : Arm .s_start (.startTimer hf)
  | lastErr1 : Arm .s_lastErr1 .lastTimerErr
  | selCtx : Arm .s_select .selCtx
  | selTimer : Arm .s_select .selTimer
  | selResult (id : String) : Arm .s_select (.selResult id)
  | getNext (f : Fault) : Arm .s_getNext (.getNext f)
  | nextScheduled (t : Task) : Arm (.s_nextSched t) .nextScheduled
  | markDone (id : String) (o : Outcome) (f : Fault) : Arm (.s_markDone id o) (.markDone f)
  | waitWorker (t : Task) (retry acquired : Bool) : Arm (.d_wait t retry) (.waitWorker acquired)
  | markDispatched (t : Task) (retry : Bool) (f : Fault) (hf : Option Err) :
      Arm (.d_mark t retry) (.markDispatched f hf)
  | markDispatchedCore (t : Task) (retry : Bool) : Arm (.d_mark t retry) .markDispatchedCore
  | getById (t : Task) (f : Fault) : Arm (.d_get t) (.getById f)
  | beginRetry : Arm .idle .beginRetry
  | rStop : Arm .r_stop .stopTimer
  | rStart (hf : Option Err) : Arm .r_start (.startTimer hf)
  | rLastErr : Arm .r_lastErr .lastTimerErr
  | refetch (t : Task) (f : Fault) : Arm (.r_getById t) (.getById f)
  | redone (id : String) (o : Outcome) (f : Fault) : Arm (.r_markDone id o) (.markDone f)

/-- the action is enabled: it is a call made at this program counter, and at `select` its event is there -/
def Enabled (w : World) (a : SAct) : Prop :=
  Arm w.pc a ∧ (a = .selTimer → w.obs.clock.pending = true) ∧
    ∀ id, a = .selResult id → w.completed.find? (·.1 == id) ≠ none

/-- `Sched w a w'`: the scheduler action `a` takes `w` to `w'`. A disabled action is `stuck`. -/
inductive Sched (w : World) : SAct → World → Prop
  | stuck {a : SAct} (h : ¬ w.Enabled a) : Sched w a { w with stuck := true }
  | cancelCtx : Sched w .cancelCtx { w with ctxDone := true }
  -- `Step`: the restart prologue
  | stepRestart (hpc : w.pc = .idle) (hg : w.getNextErr = true) :
      Sched w .beginStep { w with ctxDone := false, pc := .s_stop }
  | step (hpc : w.pc = .idle) (hg : ¬ w.getNextErr = true) :
      Sched w .beginStep { w with ctxDone := false, pc := .s_lastErr0 }
  | lastErr0Err (hpc : w.pc = .s_lastErr0) (he : w.obs.hook.lastErr.isSome = true) :
      Sched w .lastTimerErr { w with pc := .s_stop }
  | lastErr0Task {t : Task} (hpc : w.pc = .s_lastErr0) (he : ¬ w.obs.hook.lastErr.isSome = true)
      (hl : w.lastTask = some t) :
      Sched w .lastTimerErr { w with getNextErr := false, lastTask := none, pc := .d_wait t false }
  | lastErr0Select (hpc : w.pc = .s_lastErr0) (he : ¬ w.obs.hook.lastErr.isSome = true)
      (hl : w.lastTask = none) :
      Sched w .lastTimerErr { w with getNextErr := false, pc := .s_select }
  | stop (hpc : w.pc = .s_stop) : Sched w .stopTimer { w with obs := w.obs.stopTimer, pc := .s_start }
  | start (hf : Option Err) (hpc : w.pc = .s_start) :
      Sched w (.startTimer hf) { w with obs := w.obs.startTimer hf, pc := .s_lastErr1 }
  | lastErr1Err {e : Err} (hpc : w.pc = .s_lastErr1) (he : w.obs.hook.lastErr = some e) :
      Sched w .lastTimerErr { w with ret := .timerUpdateError e, pc := .idle }
  | lastErr1Task {t : Task} (hpc : w.pc = .s_lastErr1) (he : w.obs.hook.lastErr = none)
      (hl : w.lastTask = some t) :
      Sched w .lastTimerErr { w with getNextErr := false, lastTask := none, pc := .d_wait t false }
  | lastErr1Select (hpc : w.pc = .s_lastErr1) (he : w.obs.hook.lastErr = none) (hl : w.lastTask = none) :
      Sched w .lastTimerErr { w with getNextErr := false, pc := .s_select }
  -- `Step`: select
  | selCtx (hpc : w.pc = .s_select) : Sched w .selCtx { w with ret := .awaitingNext, pc := .idle }
  | selTimer (hpc : w.pc = .s_select) (hp : w.obs.clock.pending = true) :
      Sched w .selTimer
        { w with obs := { w.obs with clock := { w.obs.clock with pending := false } }, pc := .s_getNext }
  | selCancelled {id x : String} {o : Outcome} (hpc : w.pc = .s_select)
      (hfind : w.completed.find? (·.1 == id) = some (x, o)) (ho : (o == .ctxCanceled) = true) :
      Sched w (.selResult id)
        { w with completed := w.completed.filter (·.1 != id), reported := w.reported ++ [(id, o)],
                 ret := .taskDone id o none, pc := .idle }
  | selResult {id x : String} {o : Outcome} (hpc : w.pc = .s_select)
      (hfind : w.completed.find? (·.1 == id) = some (x, o)) (ho : ¬ (o == .ctxCanceled) = true) :
      Sched w (.selResult id)
        { w with completed := w.completed.filter (·.1 != id), reported := w.reported ++ [(id, o)],
                 pc := .s_markDone id o }
  -- `Step`: the timer branch
  | getNextFault {f : Fault} (hpc : w.pc = .s_getNext) (hf : (f != .none) = true) :
      Sched w (.getNext f)
        { w with lastTask := none, getNextErr := true, ret := .nextTask none (some .other), pc := .idle }
  | getNextNone {f : Fault} (hpc : w.pc = .s_getNext) (hf : ¬ (f != .none) = true)
      (hn : w.obs.repo.getNext = none) :
      Sched w (.getNext f)
        { w with lastTask := none, getNextErr := true, ret := .nextTask none (some .exhausted), pc := .idle }
  | getNextSome {f : Fault} {t : Task} (hpc : w.pc = .s_getNext) (hf : ¬ (f != .none) = true)
      (hn : w.obs.repo.getNext = some t) :
      Sched w (.getNext f) { w with pc := .s_nextSched t }
  | changed {t : Task} (hpc : w.pc = .s_nextSched t)
      (hc : (!w.obs.nextScheduled.2 || w.obs.nextScheduled.1 != t.scheduledAt ||
        !(!w.fix.dueCheck || decide (t.scheduledAt ≤ w.obs.clock.now))) = true) :
      Sched w .nextScheduled
        { w with getNextErr := w.fix.restartOnChanged, ret := .nextTask none (some .schedChanged),
                 pc := .idle }
  | announce {t : Task} (hpc : w.pc = .s_nextSched t)
      (hc : ¬ (!w.obs.nextScheduled.2 || w.obs.nextScheduled.1 != t.scheduledAt ||
        !(!w.fix.dueCheck || decide (t.scheduledAt ≤ w.obs.clock.now))) = true) :
      Sched w .nextScheduled
        { w with lastTask := some t, getNextErr := false, ret := .nextTask (some t) none, pc := .idle }
  -- `Step`: the result branch
  | doneBefore {id : String} {o : Outcome} {f : Fault} (hpc : w.pc = .s_markDone id o)
      (hf : (f == .before) = true) :
      Sched w (.markDone f) { w with ret := .taskDone id o (some .other), pc := .idle }
  | doneCtx {id : String} {o : Outcome} {f : Fault} (hpc : w.pc = .s_markDone id o)
      (hf : ¬ (f == .before) = true) (hc : w.ctxDone = true) :
      Sched w (.markDone f) { w with ret := .taskDone id o (some .ctx), pc := .idle }
  | done {id : String} {o : Outcome} {f : Fault} (hpc : w.pc = .s_markDone id o)
      (hf : ¬ (f == .before) = true) (hc : ¬ w.ctxDone = true) :
      Sched w (.markDone f)
        { w with obs := { w.obs with repo :=
                   (Repo.step {} w.obs.repo w.obs.clock.now (.done id (outcomeErr o))).1 },
                 ret := .taskDone id o
                   (faultErr f (Repo.step {} w.obs.repo w.obs.clock.now (.done id (outcomeErr o))).2),
                 pc := .idle }
  -- `dispatchTask`
  | noWorker {t : Task} {retry : Bool} (hpc : w.pc = .d_wait t retry) :
      Sched w (.waitWorker false) { w with ret := .dispatchErr t .ctx, pc := .idle, getNextErr := true }
  | waitRetry {t : Task} (hpc : w.pc = .d_wait t true) :
      Sched w (.waitWorker true) { w with pc := .d_get t }
  | waitMark {t : Task} (hpc : w.pc = .d_wait t false) :
      Sched w (.waitWorker true) { w with pc := .d_mark t false }
  | markBefore {t : Task} {retry : Bool} {f : Fault} (hf' : Option Err) (hpc : w.pc = .d_mark t retry)
      (hf : (f == .before) = true) :
      Sched w (.markDispatched f hf')
        { w with ret := .dispatchErr t .other, pc := .idle, getNextErr := true }
  | markCtx {t : Task} {retry : Bool} {f : Fault} (hf' : Option Err) (hpc : w.pc = .d_mark t retry)
      (hf : ¬ (f == .before) = true) (hc : w.ctxDone = true) :
      Sched w (.markDispatched f hf')
        { w with ret := .dispatchErr t .ctx, pc := .idle, getNextErr := true }
  | markErr {t : Task} {retry : Bool} {f : Fault} {hf' : Option Err} {e : Err}
      (hpc : w.pc = .d_mark t retry) (hf : ¬ (f == .before) = true) (hc : ¬ w.ctxDone = true)
      (he : faultErr f (w.obs.step (.dispatch t.id) hf').2 = some e) :
      Sched w (.markDispatched f hf')
        { w with obs := (w.obs.step (.dispatch t.id) hf').1, ret := .dispatchErr t e, pc := .idle,
                 getNextErr := true }
  | markOk {t : Task} {retry : Bool} {f : Fault} {hf' : Option Err}
      (hpc : w.pc = .d_mark t retry) (hf : ¬ (f == .before) = true) (hc : ¬ w.ctxDone = true)
      (he : faultErr f (w.obs.step (.dispatch t.id) hf').2 = none) :
      Sched w (.markDispatched f hf') { w with obs := (w.obs.step (.dispatch t.id) hf').1, pc := .d_get t }
  | coreCtx {t : Task} {retry : Bool} (hpc : w.pc = .d_mark t retry) (hc : w.ctxDone = true) :
      Sched w .markDispatchedCore { w with ret := .dispatchErr t .ctx, pc := .idle, getNextErr := true }
  | core {t : Task} {retry : Bool} (hpc : w.pc = .d_mark t retry) (hc : ¬ w.ctxDone = true) :
      Sched w .markDispatchedCore
        { w with obs := { w.obs with repo := (Repo.step {} w.obs.repo w.obs.clock.now (.dispatch t.id)).1 },
                 ret := .dispatchErr t
                   (match (Repo.step {} w.obs.repo w.obs.clock.now (.dispatch t.id)).2 with
                     | .err e => e | _ => .other),
                 pc := .idle, getNextErr := true }
  | getFault {t : Task} {f : Fault} (hpc : w.pc = .d_get t) (hf : (f != .none) = true) :
      Sched w (.getById f) { w with ret := .dispatchErr t .other, pc := .idle, getNextErr := true }
  | getCtx {t : Task} {f : Fault} (hpc : w.pc = .d_get t) (hf : ¬ (f != .none) = true)
      (hc : w.ctxDone = true) :
      Sched w (.getById f) { w with ret := .dispatchErr t .ctx, pc := .idle, getNextErr := true }
  | getNone {t : Task} {f : Fault} (hpc : w.pc = .d_get t) (hf : ¬ (f != .none) = true)
      (hc : ¬ w.ctxDone = true) (hl : w.obs.repo.lookup t.id = none) :
      Sched w (.getById f) { w with ret := .dispatchErr t .idNotFound, pc := .idle, getNextErr := true }
  | run {t cur : Task} {f : Fault} (hpc : w.pc = .d_get t) (hf : ¬ (f != .none) = true)
      (hc : ¬ w.ctxDone = true) (hl : w.obs.repo.lookup t.id = some cur) :
      Sched w (.getById f)
        { w with running := w.running ++ [(t.id, cur)],
                 log := w.log ++ [({ id := t.id, at_ := w.obs.clock.now, task := cur } : RunEntry)],
                 ret := .dispatched t.id, pc := .idle }
  -- `Retry`
  | retryTimer {e : Err} (hpc : w.pc = .idle) (hr : w.ret = .timerUpdateError e) :
      Sched w .beginRetry { w with ctxDone := false, pc := .r_stop }
  | retryDispatch {t : Task} {e : Err} (hpc : w.pc = .idle) (hr : w.ret = .dispatchErr t e) :
      Sched w .beginRetry { w with ctxDone := false, pc := .r_getById t }
  | retryDone {id : String} {o : Outcome} {e : Option Err} (hpc : w.pc = .idle)
      (hr : w.ret = .taskDone id o e) :
      Sched w .beginRetry { w with ctxDone := false, pc := .r_markDone id o }
  | retryZero (hpc : w.pc = .idle) (h1 : ∀ e, w.ret ≠ .timerUpdateError e)
      (h2 : ∀ t e, w.ret ≠ .dispatchErr t e) (h3 : ∀ id o e, w.ret ≠ .taskDone id o e) :
      Sched w .beginRetry { w with ctxDone := false, ret := .zero, pc := .idle }
  | rStop (hpc : w.pc = .r_stop) : Sched w .stopTimer { w with obs := w.obs.stopTimer, pc := .r_start }
  | rStart (hf : Option Err) (hpc : w.pc = .r_start) :
      Sched w (.startTimer hf) { w with obs := w.obs.startTimer hf, pc := .r_lastErr }
  | rLastErrErr {e : Err} (hpc : w.pc = .r_lastErr) (he : w.obs.hook.lastErr = some e) :
      Sched w .lastTimerErr { w with ret := .timerUpdateError e, pc := .idle }
  | rLastErrOk (hpc : w.pc = .r_lastErr) (he : w.obs.hook.lastErr = none) :
      Sched w .lastTimerErr { w with ret := .zero, pc := .idle }
  | refetchFault {t : Task} {f : Fault} (hpc : w.pc = .r_getById t) (hf : (f != .none) = true) :
      Sched w (.getById f) { w with ret := .dispatchErr t .other, pc := .idle }
  | refetchCtx {t : Task} {f : Fault} (hpc : w.pc = .r_getById t) (hf : ¬ (f != .none) = true)
      (hc : w.ctxDone = true) :
      Sched w (.getById f) { w with ret := .dispatchErr t .ctx, pc := .idle }
  | refetchNone {t : Task} {f : Fault} (hpc : w.pc = .r_getById t) (hf : ¬ (f != .none) = true)
      (hc : ¬ w.ctxDone = true) (hl : w.obs.repo.lookup t.id = none) :
      Sched w (.getById f) { w with pc := .d_wait zeroTask (!w.fix.retryMarks) }
  | refetch {t cur : Task} {f : Fault} (hpc : w.pc = .r_getById t) (hf : ¬ (f != .none) = true)
      (hc : ¬ w.ctxDone = true) (hl : w.obs.repo.lookup t.id = some cur) :
      Sched w (.getById f)
        { w with pc := .d_wait t (if w.fix.retryMarks then cur.state == .dispatched else true) }
  | redoneBefore {id : String} {o : Outcome} {f : Fault} (hpc : w.pc = .r_markDone id o)
      (hf : (f == .before) = true) :
      Sched w (.markDone f) { w with ret := .taskDone id o (some .other), pc := .idle }
  | redoneCtx {id : String} {o : Outcome} {f : Fault} (hpc : w.pc = .r_markDone id o)
      (hf : ¬ (f == .before) = true) (hc : w.ctxDone = true) :
      Sched w (.markDone f) { w with ret := .taskDone id o (some .ctx), pc := .idle }
  | redoneErr {id : String} {o : Outcome} {f : Fault} (hpc : w.pc = .r_markDone id o)
      (hf : ¬ (f == .before) = true) (hc : ¬ w.ctxDone = true)
      (he : ((faultErr f (Repo.step {} w.obs.repo w.obs.clock.now (.done id (outcomeErr o))).2).isSome &&
        faultErr f (Repo.step {} w.obs.repo w.obs.clock.now (.done id (outcomeErr o))).2
          != some .alreadyDone) = true) :
      Sched w (.markDone f)
        { w with obs := { w.obs with repo :=
                   (Repo.step {} w.obs.repo w.obs.clock.now (.done id (outcomeErr o))).1 },
                 ret := .taskDone id o
                   (faultErr f (Repo.step {} w.obs.repo w.obs.clock.now (.done id (outcomeErr o))).2),
                 pc := .idle }
  | redone {id : String} {o : Outcome} {f : Fault} (hpc : w.pc = .r_markDone id o)
      (hf : ¬ (f == .before) = true) (hc : ¬ w.ctxDone = true)
      (he : ¬ ((faultErr f (Repo.step {} w.obs.repo w.obs.clock.now (.done id (outcomeErr o))).2).isSome &&
        faultErr f (Repo.step {} w.obs.repo w.obs.clock.now (.done id (outcomeErr o))).2
          != some .alreadyDone) = true) :
      Sched w (.markDone f)
        { w with obs := { w.obs with repo :=
                   (Repo.step {} w.obs.repo w.obs.clock.now (.done id (outcomeErr o))).1 },
                 ret := .zero, pc := .idle }

theorem Sched.ite {w : World} {a : SAct} {c : Prop} [Decidable c] {x y : World × Resp}
    (h1 : c → Sched w a x.1) (h2 : ¬ c → Sched w a y.1) : Sched w a (if c then x else y).1 := by
  split
  · next h => exact h1 h
  · next h => exact h2 h

theorem sched_spec (w : World) (a : SAct) : Sched w a (w.sched a).1 := by
  unfold World.sched
  split
  next => exact .cancelCtx
  next hpc =>
    dsimp only
    split
    · next hg => exact .stepRestart hpc hg
    · next hg => exact .step hpc hg
  next hpc =>
    dsimp only
    split
    · next he => exact .lastErr0Err hpc he
    · next he =>
      unfold afterPrologue
      dsimp only
      split
      · next t hl => exact .lastErr0Task hpc he hl
      · next hl => exact .lastErr0Select hpc he hl
  next hpc => exact .stop hpc
  next hf hpc => exact .start hf hpc
  next hpc =>
    dsimp only
    split
    · next e he => exact .lastErr1Err hpc he
    · next he =>
      unfold afterPrologue
      dsimp only
      split
      · next t hl => exact .lastErr1Task hpc he hl
      · next hl => exact .lastErr1Select hpc he hl
  next hpc => exact .selCtx hpc
  next hpc =>
    dsimp only [Clock.consume]
    split
    · next hp => exact .selTimer hpc hp
    · next hp => exact .stuck (fun h => hp (h.2.1 rfl))
  next id hpc =>
    dsimp only
    split
    · next hfind => exact .stuck (fun h => h.2.2 _ rfl hfind)
    · next x o hfind =>
      split
      · next ho => exact .selCancelled hpc hfind ho
      · next ho => exact .selResult hpc hfind ho
  next f hpc =>
    dsimp only
    split
    · next hf => exact .getNextFault hpc hf
    · next hf =>
      split
      · next hn => exact .getNextNone hpc hf hn
      · next t hn => exact .getNextSome hpc hf hn
  next t hpc =>
    dsimp only
    split
    · next hc => exact .changed hpc hc
    · next hc => exact .announce hpc hc
  next id o f hpc =>
    dsimp only
    split
    · next hf => exact .doneBefore hpc hf
    · next hf =>
      split
      · next hc => exact .doneCtx hpc hf hc
      · next hc => exact .done hpc hf hc
  next t retry acq hpc =>
    dsimp only
    split
    · next ha =>
      cases acq
      · exact .noWorker hpc
      · cases ha
    · next ha =>
      cases acq
      · exact absurd rfl ha
      · split
        · next hr => subst hr; exact .waitRetry hpc
        · next hr => cases retry; exact .waitMark hpc; exact absurd rfl hr
  next t retry f hf' hpc =>
    dsimp only
    split
    · next hf => exact .markBefore hf' hpc hf
    · next hf =>
      split
      · next hc => exact .markCtx hf' hpc hf hc
      · next hc =>
        split
        · next e he => exact .markErr hpc hf hc he
        · next he => exact .markOk hpc hf hc he
  next t retry hpc =>
    dsimp only
    split
    · next hc => exact .coreCtx hpc hc
    · next hc => exact .core hpc hc
  next t f hpc =>
    dsimp only
    split
    · next hf => exact .getFault hpc hf
    · next hf =>
      split
      · next hc => exact .getCtx hpc hf hc
      · next hc =>
        split
        · next hl => exact .getNone hpc hf hc hl
        · next cur hl => exact .run hpc hf hc hl
  next hpc =>
    dsimp only
    split
    · next e hr => exact .retryTimer hpc hr
    · next t e hr => exact .retryDispatch hpc hr
    · next id o e hr => exact .retryDone hpc hr
    · next h1 h2 h3 => exact .retryZero hpc h1 h2 h3
  next hpc => exact .rStop hpc
  next hf hpc => exact .rStart hf hpc
  next hpc =>
    dsimp only
    split
    · next e he => exact .rLastErrErr hpc he
    · next he => exact .rLastErrOk hpc he
  next t f hpc =>
    dsimp only
    split
    · next hf => exact .refetchFault hpc hf
    · next hf =>
      split
      · next hc => exact .refetchCtx hpc hf hc
      · next hc =>
        split
        · next hl => exact .refetchNone hpc hf hc hl
        · next cur hl => exact .refetch hpc hf hc hl
  next id o f hpc =>
    dsimp only
    split
    · next hf => exact .redoneBefore hpc hf
    · next hf =>
      split
      · next hc => exact .redoneCtx hpc hf hc
      · next hc =>
        -- `split` would go for the `if` inside the condition
        exact Sched.ite (fun he => .redoneErr hpc hf hc he) (fun he => .redone hpc hf hc he)
  next _ _ n0 n1 n2 n3 n4 n5 n6 n7 n8 n9 n10 n11 n12 n13 n14 n15 n16 n17 n18 n19 n20 n21 =>
    -- no arm was taken: `n0` … `n21` say so, one for each
    refine .stuck (fun h => ?_)
    have harm := h.1
    generalize hp : w.pc = p at harm
    cases harm with
    | cancelCtx => exact n0 rfl
    | beginStep => exact n1 hp rfl
    | lastErr0 => exact n2 hp rfl
    | stop => exact n3 hp rfl
    | start hf => exact n4 hf hp rfl
    | lastErr1 => exact n5 hp rfl
    | selCtx => exact n6 hp rfl
    | selTimer => exact n7 hp rfl
    | selResult id => exact n8 id hp rfl
    | getNext f => exact n9 f hp rfl
    | nextScheduled t => exact n10 t hp rfl
    | markDone id o f => exact n11 id o f hp rfl
    | waitWorker t r acq => exact n12 t r acq hp rfl
    | markDispatched t r f hf => exact n13 t r f hf hp rfl
    | markDispatchedCore t r => exact n14 t r hp rfl
    | getById t f => exact n15 t f hp rfl
    | beginRetry => exact n16 hp rfl
    | rStop => exact n17 hp rfl
    | rStart hf => exact n18 hf hp rfl
    | rLastErr => exact n19 hp rfl
    | refetch t f => exact n20 t f hp rfl
    | redone id o f => exact n21 id o f hp rfl

end World
end Gk
