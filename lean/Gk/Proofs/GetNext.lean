/-
Facts about `Repo.getNext` (the `Key.less`-minimum of the scheduled tasks, rank = list position).
-/
import Gk.Proofs.GetNextMem
import Gk.Proofs.Task
namespace Gk

namespace Repo

def IsHead (ts : List Task) (h : Task) : Prop :=
  ∃ i, ts[i]? = some h ∧ h.state = .scheduled ∧
    ∀ j t, ts[j]? = some t → t.state = .scheduled → j ≠ i → (h.key i).less (t.key j) = true

/-- The minimum of `getNext_some_iff` is strictly below the others: keys at distinct positions differ
and `Key.less` is total. -/
theorem getNext_isHead {r : Repo} {h : Task} (hn : r.getNext = some h) : IsHead r.tasks h := by
  obtain ⟨i, hi, hs, hmin⟩ := (getNext_some_iff r h).1 hn
  refine ⟨i, hi, hs, fun j t hj hs' hne => ?_⟩
  rcases Key.less_total (Task.key_ne h t (Ne.symm hne)) with h1 | h1
  · exact h1
  · rw [hmin j t hj hs'] at h1; cases h1

theorem IsHead.unique {ts : List Task} {h h' : Task} (a : IsHead ts h) (b : IsHead ts h') :
    h = h' := by
  obtain ⟨i, hi, hs, hmin⟩ := a
  obtain ⟨i', hi', hs', hmin'⟩ := b
  by_cases hii : i = i'
  · subst hii
    rw [hi] at hi'
    exact Option.some.inj hi'
  · have h1 := hmin i' h' hi' hs' (fun e => hii e.symm)
    rw [Key.less_asymm (hmin' i h hi hs hii)] at h1
    cases h1

theorem IsHead.mem {ts : List Task} {h : Task} (a : IsHead ts h) : h ∈ ts := by
  obtain ⟨i, hi, _⟩ := a
  exact List.mem_iff_getElem?.2 ⟨i, hi⟩

theorem IsHead.scheduled {ts : List Task} {h : Task} (a : IsHead ts h) : h.state = .scheduled := by
  obtain ⟨_, _, hs, _⟩ := a
  exact hs

theorem getNext_isSome_of_scheduled {r : Repo} {t : Task} (ht : t ∈ r.tasks)
    (hs : t.state = .scheduled) : ∃ h, r.getNext = some h := by
  cases hn : r.getNext with
  | none => exact absurd hs (getNext_none_iff.1 hn t ht)
  | some h => exact ⟨h, rfl⟩

theorem getNext_eq_some_iff {r : Repo} {h : Task} : r.getNext = some h ↔ IsHead r.tasks h := by
  refine ⟨getNext_isHead, fun hh => ?_⟩
  obtain ⟨h', hn⟩ := getNext_isSome_of_scheduled hh.mem hh.scheduled
  rw [hn, IsHead.unique (getNext_isHead hn) hh]

theorem IsHead.le_sched {ts : List Task} {h : Task} (a : IsHead ts h) :
    ∀ t ∈ ts, t.state = .scheduled → h.scheduledAt ≤ t.scheduledAt := by
  obtain ⟨i, hi, hs, hmin⟩ := a
  intro t ht hst
  obtain ⟨j, hj⟩ := List.mem_iff_getElem?.1 ht
  by_cases hji : j = i
  · subst hji
    rw [hi] at hj
    cases hj
    exact Int.le_refl _
  · have := hmin j t hj hst hji
    rw [Key.less_iff] at this
    simp only [Task.key] at this
    tomega

theorem getNext_mem {r : Repo} {h : Task} (hn : r.getNext = some h) : h ∈ r.tasks :=
  (getNext_isHead hn).mem

theorem getNext_scheduled {r : Repo} {h : Task} (hn : r.getNext = some h) : h.state = .scheduled :=
  (getNext_isHead hn).scheduled

theorem getNext_le_sched {r : Repo} {h : Task} (hn : r.getNext = some h) :
    ∀ t ∈ r.tasks, t.state = .scheduled → h.scheduledAt ≤ t.scheduledAt :=
  (getNext_isHead hn).le_sched

end Repo
end Gk
