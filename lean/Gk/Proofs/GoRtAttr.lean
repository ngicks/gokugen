import Lean.Meta.Tactic.Simp.RegisterCommand
/-- what the Go runtime shims (Gk/GoRt.lean, Gk/GenGlue*.lean) compute on the values the translated code hands them -/
register_simp_attr go_rt
