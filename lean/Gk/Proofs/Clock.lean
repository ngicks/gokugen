/-
The virtual clock by itself: timer operations leave its reading alone and `advance` never moves it back; stopping
and draining, re-arming and advancing in closed form.
-/
import Gk.Hook
namespace Gk.Clock

theorem stopAndDrain_now (c : Clock) : c.stopAndDrain.now = c.now := by
  unfold stopAndDrain; split <;> rfl

theorem fire_now (c : Clock) : c.fire.now = c.now := by
  unfold fire
  split
  · split <;> rfl
  · rfl

theorem reset_now (c : Clock) (d : Int) : (c.reset d).now = c.now := fire_now _

theorem advance_now (c : Clock) (t : Time) : c.now ≤ (c.advance t).now := by
  unfold advance
  rw [fire_now]
  dsimp only
  split <;> (unfold Time at *; omega)

theorem stopAndDrain_armed (c : Clock) : c.stopAndDrain.armed = none := by
  unfold stopAndDrain
  split
  · rfl
  next h => simpa using h

/-- With at most one of "armed" and "pending" (the hook timer's discipline) stop-and-drain leaves neither. -/
theorem stopAndDrain_eq {c : Clock} (h : c.armed.isSome = true → c.pending = false) :
    c.stopAndDrain = { c with armed := none, pending := false } := by
  obtain ⟨n, a, p⟩ := c
  cases a <;> simp_all [stopAndDrain]

theorem reset_quiet (c : Clock) (s : Time) :
    ({ c with armed := none, pending := false } : Clock).reset (s - c.now) =
      if s ≤ c.now then { c with armed := none, pending := true } else { c with armed := some s, pending := false } := by
  have e : c.now + (s - c.now) = s := by unfold Time at *; omega
  simp only [reset, fire, e]

theorem advance_cases (c : Clock) (t : Time) :
    c.now ≤ (c.advance t).now ∧
    (((c.advance t).armed = c.armed ∧ (c.advance t).pending = c.pending) ∨
     (c.armed.isSome = true ∧ (c.advance t).armed = none ∧ (c.advance t).pending = true)) := by
  refine ⟨advance_now c t, ?_⟩
  unfold advance fire
  generalize (if t > c.now then t else c.now) = n
  cases ha : c.armed with
  | none => simp
  | some d =>
    simp only
    split <;> simp

/-- advancing to the armed deadline fires the timer -/
theorem advance_armed {c : Clock} {d : Time} (h : c.armed = some d) :
    c.advance d = { now := if d > c.now then d else c.now, armed := none, pending := true } := by
  have hle : d ≤ if d > c.now then d else c.now := by split <;> (unfold Time at *; omega)
  simp only [advance, fire, h, hle, ↓reduceIte]

end Gk.Clock

/-! The same facts under the name the cron store's timer invariant uses for the discipline. -/

namespace Gk.Cron

def ClockSane (k : Clock) : Prop := k.armed.isSome → k.pending = false

theorem stopAndDrain_quiet {k : Clock} (h : ClockSane k) :
    k.stopAndDrain.armed = none ∧ k.stopAndDrain.pending = false := by
  rw [Clock.stopAndDrain_eq h]
  exact ⟨rfl, rfl⟩

theorem stopAndDrain_of_quiet {k : Clock} (h1 : k.armed = none) (h2 : k.pending = false) :
    k.stopAndDrain = k := by
  cases k; simp_all [Clock.stopAndDrain]

theorem fire_sane {k : Clock} (h : ClockSane k) : ClockSane k.fire := by
  unfold Clock.fire ClockSane at *
  split
  · split
    · simp
    · exact h
  · exact h

theorem reset_sane {k : Clock} (d : Int) (h : k.pending = false) : ClockSane (k.reset d) := by
  unfold Clock.reset
  apply fire_sane
  intro _; exact h

theorem advance_sane {k : Clock} (t : Time) (h : ClockSane k) : ClockSane (k.advance t) := by
  unfold Clock.advance
  apply fire_sane
  exact h

theorem consume_sane (k : Clock) : ClockSane k.consume.1 := by
  intro _; rfl

theorem stopAndDrain_sane (k : Clock) : ClockSane k.stopAndDrain :=
  fun h => by rw [Clock.stopAndDrain_armed] at h; cases h

theorem fire_quiet {k : Clock} (h1 : k.armed = none) : k.fire = k := by
  unfold Clock.fire; simp [h1]

theorem reset_follows (k : Clock) (t : Time) :
    ((k.reset (t - k.now)).armed = some t ∧ (k.reset (t - k.now)).now < t) ∨
    ((k.reset (t - k.now)).pending = true ∧ t ≤ (k.reset (t - k.now)).now) := by
  have e : k.now + (t - k.now) = t := by unfold Time at *; omega
  unfold Clock.reset Clock.fire
  simp only [e]
  by_cases hle : t ≤ k.now
  · right; simp [hle]
  · left; simp [hle]
    unfold Time at *; omega

end Gk.Cron
