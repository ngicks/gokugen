/-
The reference repository under its invariant: `Repo.WF` (C12) and fresh histories; what `Task.update` and
`Param.toTask` do to well-formedness; `TaskRel`, what one step may do to one stored task; `Stepped`, the
rules of `Repo.step`, and `Shape`, the successor list under `WF`; refusals by state; the C01 monitor
(`c01_nil`); the data of the non-vacuity examples (`Ex`).

Three descriptions of a write, by use. `Stepped` / `Shape`: a relation on the task lists, any flags
(`Shape` needs `WF`). `step_lookup` / `Edit` (Proofs/RepoStep): a function on `lookup`s, no invariant.
`mutateScheduled_spec` / `step_done_spec`: which refusal a task's state gives, under `WF`; `Edit.ok_iff`: `ok` exactly
on a hit.
-/
import Gk.Basic
import Gk.Query
import Gk.Repo
import Gk.Mon
import Gk.Proofs.ByCreated
import Gk.Proofs.Find
import Gk.Proofs.GetNextMem
import Gk.Proofs.Task
import Gk.Proofs.RepoStep
namespace Gk

/-- Invariant of C12: every stored task is well formed and ids are unique. -/
def Repo.WF (r : Repo) : Prop :=
  (∀ t ∈ r.tasks, t.wellFormed = true) ∧ (r.tasks.map (·.id)).Nodup

/-- The id source is fresh: AddTask never receives an id that is already stored. -/
def Op.fresh (r : Repo) : Op → Prop
  | .add id _ => id ∉ r.tasks.map (·.id)
  | _ => True

/-- A history all of whose adds are fresh at the point they happen, and whose clock readings are
≥ 1 ms (so created_at ≠ zero time). -/
def Repo.FreshHist (fl : Flags) (r : Repo) : List (Time × Op) → Prop
  | [] => True
  | (now, op) :: rest =>
    op.fresh r ∧ normalize now ≠ 0 ∧ Repo.FreshHist fl (Repo.step fl r now op).1 rest

def Op.isRead : Op → Bool
  | .get _ | .find .. | .next => true
  | _ => false

def Repo.allSteps (fl : Flags) (P : Repo → Time → Op → Prop) : Repo → List (Time × Op) → Prop
  | _, [] => True
  | r, (now, op) :: rest => P r now op ∧ Repo.allSteps fl P (Repo.step fl r now op).1 rest

theorem Task.wellFormed_iff (t : Task) :
    t.wellFormed = true ↔ t.isValid = true ∧ t.timesNormalized = true ∧ t.consistent = true := by
  simp [Task.wellFormed, and_assoc]

theorem Task.update_timesNormalized (t : Task) (p : Param) : (t.update p).timesNormalized = true := by
  simp [Task.timesNormalized, Task.update, Task.normalizeTime, isNorm_normalize, optNorm_map_normalize]

theorem Task.update_isValid {t : Task} {p : Param} (ht : t.wellFormed = true)
    (hp : p.validForUpdate = true) : (t.update p.normalize).isValid = true := by
  obtain ⟨w, pr, pa, me, s, d⟩ := p
  simp only [Task.wellFormed, Task.isValid, Task.timesNormalized, Bool.and_eq_true, bne_iff_ne, ne_eq] at ht
  obtain ⟨⟨⟨⟨⟨hid, hw⟩, hs⟩, hc⟩, ⟨⟨⟨⟨⟨ns, nc⟩, _⟩, _⟩, _⟩, _⟩⟩, _⟩ := ht
  have ns' := normalize_of_isNorm ns
  have nc' := normalize_of_isNorm nc
  cases w <;> cases s <;>
    simp_all [Param.validForUpdate, Task.isValid, Task.update, Task.normalizeTime, Param.normalize, fakeTask, normalize_idem]


theorem toTask_consistent (p : Param) (id : String) (now : Time) :
    (p.toTask id now).consistent = true := by
  simp [Task.consistent, Param.toTask, Task.blank, Task.update, Task.normalizeTime]

theorem toTask_timesNormalized (p : Param) (id : String) (now : Time) :
    (p.toTask id now).timesNormalized = true := by
  simp only [Task.timesNormalized, Param.toTask, Task.update, Task.normalizeTime, isNorm_normalize, optNorm_map_normalize, Bool.and_self]

theorem toTask_isValid_now (p : Param) (id : String) {now now' : Time}
    (h : normalize now ≠ 0) (h' : normalize now' ≠ 0) :
    (p.toTask id now).isValid = (p.toTask id now').isValid := by
  simp [Task.isValid, Param.toTask, Task.blank, Task.update, Task.normalizeTime, normalize_idem, bne_iff_ne.mpr h,
    bne_iff_ne.mpr h']

theorem toTask_invalid_of_zero (p : Param) (id : String) {now : Time}
    (h : normalize now = 0) : (p.toTask id now).isValid = false := by
  simp [Task.isValid, Param.toTask, Task.blank, Task.update, Task.normalizeTime, h]

theorem Repo.WF.lookup_mem {r : Repo} (h : r.WF) {t : Task} (ht : t ∈ r.tasks) :
    r.lookup t.id = some t := find?_key_of_nodup h.2 ht

theorem Repo.WF.eq_of_lookup {r : Repo} (h : r.WF) {id : String} {t0 t : Task}
    (h0 : r.lookup id = some t0) (ht : t ∈ r.tasks) (hid : t.id = id) : t = t0 := by
  have := Repo.lookup_some h0
  exact eq_of_map_eq_of_nodup h.2 ht this.1 (hid.trans this.2.symm)

theorem Repo.WF.mem_replace {r : Repo} (h : r.WF) {id : String} {t0 : Task} (hl : r.lookup id = some t0)
    {f : Task → Task} {t' : Task} (ht' : t' ∈ (r.replace id f).tasks) :
    t' = f t0 ∨ (t' ∈ r.tasks ∧ t'.id ≠ id) := by
  simp only [Repo.replace, List.mem_map] at ht'
  obtain ⟨t, ht, rfl⟩ := ht'
  by_cases hid : t.id = id
  · left
    rw [h.eq_of_lookup hl ht hid]
    simp [(Repo.lookup_some hl).2]
  · right
    simp [hid, ht]

/-- What a step may do to one stored task: the id and the creation time are kept, well-formedness
is kept, and (for lifecycle operations) the state moves along an edge of C01. -/
structure TaskRel (lc : Bool) (t t' : Task) : Prop where
  id : t'.id = t.id
  created : t'.createdAt = t.createdAt
  wf : t.wellFormed = true → t'.wellFormed = true
  edge : lc = true → Mon.edgeOk t.state t'.state = true

theorem TaskRel.refl (lc : Bool) (t : Task) : TaskRel lc t t :=
  ⟨rfl, rfl, fun h => h, fun _ => by simp [Mon.edgeOk]⟩

theorem TaskRel.update {t : Task} {p : Param} (ht : t.wellFormed = true)
    (hp : p.validForUpdate = true) (lc : Bool) : TaskRel lc t (t.update p.normalize) := by
  have hc : normalize t.createdAt = t.createdAt := by
    simp only [Task.wellFormed, Task.timesNormalized, Bool.and_eq_true] at ht
    exact normalize_of_isNorm ht.1.2.1.1.1.1.2
  refine ⟨rfl, hc, fun _ => ?_, fun _ => by simp [Mon.edgeOk]⟩
  rw [Task.wellFormed_iff]
  refine ⟨Task.update_isValid ht hp, Task.update_timesNormalized _ _, ?_⟩
  rw [Task.update_consistent]
  exact ((Task.wellFormed_iff t).mp ht).2.2

/-- A write that sets only the state, the error text and the three stamps of the lifecycle. -/
theorem TaskRel.restamp {t : Task} {lc : Bool} {s : St} {e : String} {c d o : Option Time}
    (hedge : lc = true → Mon.edgeOk t.state s = true)
    (h : optNorm t.cancelledAt = true → optNorm t.dispatchedAt = true → optNorm t.doneAt = true →
      t.consistent = true → optNorm c = true ∧ optNorm d = true ∧ optNorm o = true ∧
        ({ t with state := s, err := e, cancelledAt := c, dispatchedAt := d, doneAt := o } : Task).consistent = true) :
    TaskRel lc t { t with state := s, err := e, cancelledAt := c, dispatchedAt := d, doneAt := o } := by
  refine ⟨rfl, rfl, fun ht => ?_, hedge⟩
  simp only [Task.wellFormed, Task.isValid, Task.timesNormalized, Bool.and_eq_true] at ht ⊢
  obtain ⟨hc, hd, ho, hk⟩ := h ht.1.2.1.1.2 ht.1.2.1.2 ht.1.2.2 ht.2
  exact ⟨⟨ht.1.1, ⟨⟨⟨ht.1.2.1.1.1, hc⟩, hd⟩, ho⟩⟩, hk⟩

theorem TaskRel.cancel {t : Task} (hs : t.state = .scheduled) (now : Time) (lc : Bool) :
    TaskRel lc t { t with state := .cancelled, cancelledAt := some (normalize now) } :=
  .restamp (e := t.err) (d := t.dispatchedAt) (o := t.doneAt) (fun _ => by rw [hs]; rfl) fun _ hd ho hk =>
    ⟨isNorm_normalize _, hd, ho, (Edit.cancel (now := now) t.id).consistent hs hk⟩

theorem TaskRel.dispatch {t : Task} (hs : t.state = .scheduled) (now : Time) (lc : Bool) :
    TaskRel lc t { t with state := .dispatched, dispatchedAt := some (normalize now) } :=
  .restamp (e := t.err) (c := t.cancelledAt) (o := t.doneAt) (fun _ => by rw [hs]; rfl) fun hc _ ho hk =>
    ⟨hc, isNorm_normalize _, ho, (Edit.dispatch (now := now) t.id).consistent hs hk⟩

theorem TaskRel.done {t : Task} (hs : t.state = .dispatched) (now : Time) (e : Option String) (lc : Bool) :
    TaskRel lc t (match e with
      | none => { t with state := .done, doneAt := some (normalize now) }
      | some msg => { t with state := .err, err := msg, doneAt := some (normalize now) }) := by
  cases e
  · exact .restamp (e := t.err) (c := t.cancelledAt) (d := t.dispatchedAt) (fun _ => by rw [hs]; rfl) fun hc hd _ hk =>
      ⟨hc, hd, isNorm_normalize _, (Edit.done (now := now) t.id none).consistent hs hk⟩
  · exact .restamp (c := t.cancelledAt) (d := t.dispatchedAt) (fun _ => by rw [hs]; rfl) fun hc hd _ hk =>
      ⟨hc, hd, isNorm_normalize _, (Edit.done (now := now) t.id (some _)).consistent hs hk⟩

theorem TaskRel.cancelDispatched {t : Task} (hs : t.state = .dispatched) (now : Time) :
    TaskRel false t { t with state := .cancelled, cancelledAt := some (normalize now) } :=
  .restamp (e := t.err) (d := t.dispatchedAt) (o := t.doneAt) (fun h => by cases h) fun _ hd ho hk =>
    ⟨isNorm_normalize _, hd, ho, by simp [Task.consistent, hs] at hk; simp [Task.consistent, hk]⟩

theorem TaskRel.revert {t : Task} (hs : t.state = .dispatched) :
    TaskRel false t { t with state := .scheduled, dispatchedAt := none } :=
  .restamp (e := t.err) (c := t.cancelledAt) (o := t.doneAt) (fun h => by cases h) fun hc _ ho hk =>
    ⟨hc, rfl, ho, by simp [Task.consistent, hs] at hk; simp [Task.consistent, hk]⟩


/-- Everything a step can do (any flags, no invariant): the pair of successor state and output of
`Repo.step` is always an instance of one of these rules. What the properties say about single steps is
read off by `cases` on this. -/
inductive Stepped (fl : Flags) (r : Repo) (now : Time) (op : Op) : Repo × Out → Prop
  | refused (e : Err) : Stepped fl r now op (r, .err e)
  /-- a guarded write on a task in the wrong state whose timestamps name no refusal returns a nil error;
  the invariant excludes it (`mutateScheduled_spec`, `step_done_spec`) -/
  | nilErr {id want f} (he : Edit now op id want f) : Stepped fl r now op (r, .ok)
  | got (t : Task) (h : (∃ id, op = .get id ∧ r.lookup id = some t) ∨ (op = .next ∧ r.getNext = some t)) :
      Stepped fl r now op (r, .task t)
  | found {q o l} (hop : op = .find q o l) :
      Stepped fl r now op (r, .tasks (findLoop (q.normalize fl.normDeadline).matches (byCreated r.tasks) o l))
  | added {id p} (hop : op = .add id p) (hv : (p.normalize.toTask id now).isValid = true) :
      Stepped fl r now op
        ({ tasks := r.tasks ++ [p.normalize.toTask id now] }, .task (p.normalize.toTask id now))
  | edited {id want f t} (he : Edit now op id want f) (hl : r.lookup id = some t) (hs : t.state = want) :
      Stepped fl r now op (r.replace id f, .ok)
  | swept (g : Task → Task)
      (hop : (op = .revert ∧ g = fun t =>
                { t with state := .scheduled, dispatchedAt := if fl.revertClears then none else t.dispatchedAt }) ∨
             (op = .cancelDispatched ∧ g = fun t =>
                { t with state := .cancelled, cancelledAt := some (normalize now) })) :
      Stepped fl r now op ({ tasks := r.tasks.map fun t => if t.state == .dispatched then g t else t }, .ok)
  | deleted (hop : op = .deleteEnded) :
      Stepped fl r now op
        ({ tasks := r.tasks.filter fun t => t.state == .scheduled || t.state == .dispatched }, .ok)

theorem Stepped.guarded {fl r now op id want f} (he : Edit now op id want f) (ek : Task → Option Err) :
    Stepped fl r now op (Gk.guarded (r.lookup id) r want ek (r.replace id f)) := by
  unfold Gk.guarded
  split
  · exact .refused _
  · split
    · split
      · exact .refused _
      · exact .nilErr he
    · rename_i hl hs
      exact .edited he hl (by simpa using hs)

theorem step_stepped (fl : Flags) (r : Repo) (now : Time) (op : Op) :
    Stepped fl r now op (Repo.step fl r now op) := by
  cases op with
  | add id p =>
    simp only [Repo.step]
    split
    · exact .refused _
    · rename_i hv
      exact .added rfl (by simpa using hv)
  | get id =>
    simp only [Repo.step]
    split
    · exact .refused _
    · rename_i hl
      exact .got _ (.inl ⟨id, rfl, hl⟩)
  | update id p =>
    simp only [Repo.step]
    split
    · exact .refused _
    · rename_i hv
      exact .guarded (.update id p (by simpa using hv)) _
  | cancel id => exact .guarded (.cancel id) _
  | dispatch id => exact .guarded (.dispatch id) _
  | done id e => exact .guarded (.done id e) _
  | find q o l => exact .found rfl
  | next =>
    simp only [Repo.step]
    split
    · exact .refused _
    · rename_i hn
      exact .got _ (.inr ⟨rfl, hn⟩)
  | revert => exact .swept _ (.inl ⟨rfl, rfl⟩)
  | cancelDispatched => exact .swept _ (.inr ⟨rfl, rfl⟩)
  | deleteEnded => exact .deleted rfl

theorem Edit.rel {now op id want f} (he : Edit now op id want f) {t : Task} (ht : t.wellFormed = true)
    (hs : t.state = want) : TaskRel op.isLifecycle t (f t) := by
  cases he with
  | update id p hv => exact .update ht hv _
  | cancel id => exact .cancel hs now _
  | dispatch id => exact .dispatch hs now _
  | done id e => exact .done hs now e _

inductive Shape (r : Repo) (now : Time) (op : Op) (r' : Repo) : Prop
  | map (g : Task → Task) (h : r'.tasks = r.tasks.map g)
      (rel : ∀ t ∈ r.tasks, TaskRel op.isLifecycle t (g t))
  | add (id : String) (p : Param) (hop : op = .add id p)
      (hv : (p.normalize.toTask id now).isValid = true)
      (h : r'.tasks = r.tasks ++ [p.normalize.toTask id now])
  | del (hop : op = .deleteEnded)
      (h : r'.tasks = r.tasks.filter (fun t => t.state == .scheduled || t.state == .dispatched))

theorem Shape.noop (r : Repo) (now : Time) (op : Op) : Shape r now op r :=
  .map id (by simp) (fun t _ => TaskRel.refl _ t)

theorem step_shape {r : Repo} (h : r.WF) (now : Time) (op : Op) :
    Shape r now op (Repo.step {} r now op).1 := by
  have hs := step_stepped {} r now op
  generalize Repo.step {} r now op = ro at hs
  cases hs with
  | refused | nilErr | got | found => exact .noop ..
  | added hop hv => exact .add _ _ hop hv rfl
  | @edited id want f t0 he hl hs =>
    refine .map _ rfl fun t ht => ?_
    by_cases hid : t.id = id
    · rw [if_pos (by simpa using hid), h.eq_of_lookup hl ht hid]
      exact he.rel (h.1 _ (Repo.lookup_some hl).1) hs
    · rw [if_neg (by simpa using hid)]; exact .refl _ t
  | swept g hg =>
    refine .map _ rfl fun t _ => ?_
    by_cases hs : t.state = .dispatched
    · rw [if_pos (by simpa using hs)]
      rcases hg with ⟨rfl, rfl⟩ | ⟨rfl, rfl⟩
      · exact .revert hs
      · exact .cancelDispatched hs now
    · rw [if_neg (by simpa using hs)]; exact .refl _ t
  | deleted hop => exact .del hop rfl


theorem map_id_of_rel {l : List Task} {g : Task → Task} (h : ∀ t ∈ l, (g t).id = t.id) :
    (l.map g).map (·.id) = l.map (·.id) := by
  rw [List.map_map]
  exact List.map_congr_left h

/-- Where a task of the successor list comes from: a task stored before, related by `TaskRel`, or the one an `add` stores. -/
theorem Shape.mem {r r' : Repo} {now : Time} {op : Op} (s : Shape r now op r') {t' : Task}
    (ht' : t' ∈ r'.tasks) :
    (∃ t ∈ r.tasks, TaskRel op.isLifecycle t t') ∨
      ∃ id p, op = .add id p ∧ (p.normalize.toTask id now).isValid = true ∧ t' = p.normalize.toTask id now := by
  cases s with
  | map g hg rel =>
    rw [hg, List.mem_map] at ht'
    obtain ⟨t, ht, rfl⟩ := ht'
    exact .inl ⟨t, ht, rel t ht⟩
  | add id p hop hv ha =>
    rw [ha, List.mem_append, List.mem_singleton] at ht'
    rcases ht' with ht' | rfl
    · exact .inl ⟨t', ht', .refl _ t'⟩
    · exact .inr ⟨id, p, hop, hv, rfl⟩
  | del hop hd =>
    rw [hd] at ht'
    exact .inl ⟨t', (List.mem_filter.mp ht').1, .refl _ t'⟩

theorem Shape.wf {r r' : Repo} {now : Time} {op : Op} (h : r.WF) (hf : op.fresh r)
    (s : Shape r now op r') : r'.WF := by
  constructor
  · intro t' ht'
    rcases s.mem ht' with ⟨t, ht, rel⟩ | ⟨id, p, -, hv, rfl⟩
    · exact rel.wf (h.1 t ht)
    · exact (Task.wellFormed_iff _).mpr ⟨hv, toTask_timesNormalized .., toTask_consistent ..⟩
  · cases s with
    | map g hg rel =>
      rw [hg, map_id_of_rel (fun t ht => (rel t ht).id)]
      exact h.2
    | add id p hop hv ha =>
      subst hop
      rw [ha, List.map_append]
      exact nodup_concat h.2 hf
    | del hop hd =>
      rw [hd]
      exact List.Nodup.sublist (List.Sublist.map _ List.filter_sublist) h.2

theorem step_wf {r : Repo} {now : Time} {op : Op} (h : r.WF) (hf : op.fresh r) :
    (Repo.step {} r now op).1.WF :=
  (step_shape h now op).wf h hf

theorem Shape.same_id {r r' : Repo} {now : Time} {op : Op} (h : r.WF) (hf : op.fresh r)
    (s : Shape r now op r') {t t' : Task} (ht : t ∈ r.tasks) (ht' : t' ∈ r'.tasks)
    (hid : t'.id = t.id) : TaskRel op.isLifecycle t t' := by
  rcases s.mem ht' with ⟨t0, ht0, rel⟩ | ⟨id, p, rfl, -, rfl⟩
  · rwa [← eq_of_map_eq_of_nodup h.2 ht0 ht (rel.id.symm.trans hid)]
  · rw [Param.toTask_id] at hid
    exact absurd (hid ▸ List.mem_map_of_mem ht) hf

theorem Shape.new_task {r r' : Repo} {now : Time} {op : Op}
    (s : Shape r now op r') {t' : Task} (ht' : t' ∈ r'.tasks)
    (hid : t'.id ∉ r.tasks.map (·.id)) : t'.state = .scheduled := by
  rcases s.mem ht' with ⟨t, ht, rel⟩ | ⟨id, p, -, -, rfl⟩
  · exact absurd (rel.id ▸ List.mem_map_of_mem ht) hid
  · rfl

theorem step_never_lost (fl : Flags) (r : Repo) (now : Time) {op : Op} (hop : op ≠ .deleteEnded)
    {t : Task} (ht : t ∈ r.tasks) : ∃ t' ∈ (Repo.step fl r now op).1.tasks, t'.id = t.id := by
  have hs := step_stepped fl r now op
  generalize Repo.step fl r now op = ro at hs
  cases hs with
  | refused | nilErr | got | found => exact ⟨t, ht, rfl⟩
  | added => exact ⟨t, List.mem_append_left _ ht, rfl⟩
  | edited he => exact ⟨_, List.mem_map_of_mem ht, by split <;> simp [he.id_eq]⟩
  | swept g hg =>
    refine ⟨_, List.mem_map_of_mem ht, ?_⟩
    rcases hg with ⟨-, rfl⟩ | ⟨-, rfl⟩ <;> split <;> rfl
  | deleted h => exact absurd h hop


theorem Repo.getNext_mem {r : Repo} {t : Task} (h : r.getNext = some t) :
    t ∈ r.tasks ∧ t.state = .scheduled := by
  obtain ⟨i, hi, hs, -⟩ := (Repo.getNext_some_iff r t).mp h
  exact ⟨List.mem_of_getElem? hi, hs⟩


theorem step_out_task {fl : Flags} {r : Repo} {now : Time} {op : Op} {t : Task}
    (h : (Repo.step fl r now op).2 = .task t) :
    (∃ id p, op = .add id p ∧ t = p.normalize.toTask id now ∧ t.isValid = true) ∨
    (∃ id, op = .get id ∧ r.lookup id = some t) ∨ (op = .next ∧ r.getNext = some t) := by
  have hs := step_stepped fl r now op
  generalize Repo.step fl r now op = ro at h hs
  cases hs <;> cases h
  · exact .inr ‹_›
  · exact .inl ⟨_, _, ‹_›, rfl, ‹_›⟩

theorem step_out_tasks {fl : Flags} {r : Repo} {now : Time} {op : Op} {ts : List Task}
    (h : (Repo.step fl r now op).2 = .tasks ts) : ∀ t ∈ ts, t ∈ r.tasks := by
  have hs := step_stepped fl r now op
  generalize Repo.step fl r now op = ro at h hs
  cases hs <;> cases h
  exact fun t ht => mem_byCreated.mp (((findLoop_sublist ..).trans List.filter_sublist).subset ht)


theorem Repo.WF_empty : Repo.WF {} := by simp [Repo.WF]

theorem c12Task_nil {t : Task} (h : t.wellFormed = true) : Mon.c12Task t = [] := by
  rw [Task.wellFormed_iff] at h
  simp [Mon.c12Task, h.1, h.2.1, h.2.2]



theorem Repo.WF.consistent_of_lookup {r : Repo} (h : r.WF) {id : String} {t : Task}
    (hl : r.lookup id = some t) : t.consistent = true :=
  ((Task.wellFormed_iff t).mp (h.1 t (Repo.lookup_some hl).1)).2.2

theorem mutateScheduled_spec {r : Repo} (h : r.WF) (id : String) (f : Task → Task) :
    r.mutateScheduled id f =
      match r.lookup id with
      | none => (r, .err .idNotFound)
      | some t =>
        match t.state with
        | .scheduled => (r.replace id f, .ok)
        | .dispatched => (r, .err .alreadyDispatched)
        | .cancelled => (r, .err .alreadyCancelled)
        | .done | .err => (r, .err .alreadyDone) := by
  unfold Repo.mutateScheduled
  cases hl : r.lookup id with
  | none => rfl
  | some t =>
    have := (errKind_table (h.consistent_of_lookup hl)).1
    cases hs : t.state <;> simp only [hs] at this <;> simp [hs, this]

theorem step_done_spec {r : Repo} (h : r.WF) (now : Time) (id : String) (e : Option String) :
    Repo.step {} r now (.done id e) =
      match r.lookup id with
      | none => (r, .err .idNotFound)
      | some t =>
        match t.state with
        | .dispatched => (r.replace id (fun t =>
            match e with
            | none => { t with state := .done, doneAt := some (normalize now) }
            | some msg => { t with state := .err, err := msg, doneAt := some (normalize now) }), .ok)
        | .scheduled => (r, .err .notDispatched)
        | .cancelled => (r, .err .alreadyCancelled)
        | .done | .err => (r, .err .alreadyDone) := by
  simp only [Repo.step]
  cases hl : r.lookup id with
  | none => rfl
  | some t =>
    have := (errKind_table (h.consistent_of_lookup hl)).2
    cases hs : t.state <;> simp only [hs] at this <;> simp [hs, this]
    cases e <;> rfl

/-- C12's invariant gives it: a consistent row that is not `scheduled` has the timestamp of its state. -/
theorem Ent.marked_of_WF {r : Repo} (h : r.WF) : Ent.Marked r := by
  intro id t hl hs
  rw [(errKind_table (h.consistent_of_lookup hl)).1]
  cases ht : t.state <;> simp_all

theorem Edit.ok_iff {now op id want f} (he : Edit now op id want f) {r : Repo} (h : r.WF) :
    (Repo.step {} r now op).2 = .ok ↔ Ent.guard r id want = true := by
  cases he with
  | update id p hv =>
    simp only [Repo.step, hv, Bool.not_true, Bool.false_eq_true, if_false]
    exact Ent.mutate_ok_iff (Ent.marked_of_WF h) id _
  | cancel id | dispatch id => exact Ent.mutate_ok_iff (Ent.marked_of_WF h) id _
  | done id e =>
    rw [step_done_spec h, Ent.guard]
    cases r.lookup id with
    | none => simp
    | some t => cases hs : t.state <;> simp [hs]

theorem Repo.find_eq_lookup (r : Repo) (id : String) :
    r.tasks.find? (fun x => x.id == id) = r.lookup id := rfl


theorem c01_nil {prev next : List Task} {op : Op} {out : Out}
    (h1 : out.isErr = true → prev = next)
    (h2 : op.isRead = true → prev = next)
    (h3 : ∀ t ∈ next, match prev.find? (·.id == t.id) with
      | none => t.state = .scheduled
      | some p => Mon.edgeOk p.state t.state = true)
    (h4 : ∀ p ∈ prev, ∃ t ∈ next, t.id = p.id)
    (h5 : match Mon.expectedRefusal prev op with
      | some e => out = .err e
      | none => (match (generalizing := false) op with
        | .next | .find .. => True | _ => out.isErr = false)) :
    Mon.c01 prev next op false out = [] := by
  unfold Mon.c01
  simp only []
  rw [ite_eq_left_iff]
  intro _
  simp only [List.append_eq_nil_iff]
  refine ⟨⟨⟨⟨?_, ?_⟩, ?_⟩, ?_⟩, ?_⟩
  · cases ho : out.isErr
    · simp
    · simp [h1 ho]
  · split
    · simp [h2 rfl]
    · simp [h2 rfl]
    · simp [h2 rfl]
    · rfl
  · rw [List.filterMap_eq_nil_iff]
    intro t ht
    have := h3 t ht
    split <;> simp_all
  · rw [List.filterMap_eq_nil_iff]
    intro p hp
    simpa using h4 p hp
  · simp only [Bool.false_eq_true, if_false]
    cases he : Mon.expectedRefusal prev op with
    | some e =>
      simp only [he] at h5
      subst h5
      simp
    | none =>
      simp only [he] at h5
      clear he h1 h2 h3 h4
      cases out with
      | err e' => cases op <;> simp_all [Out.isErr]
      | ok => rfl
      | task t => rfl
      | tasks ts => rfl

theorem step_read_fst (fl : Flags) (r : Repo) (now : Time) {op : Op} (hr : op.isRead = true) :
    (Repo.step fl r now op).1 = r := by
  have hs := step_stepped fl r now op
  generalize Repo.step fl r now op = ro at hs
  cases hs with
  | refused | nilErr | got | found => rfl
  | added hop | deleted hop => subst hop; cases hr
  | edited he => cases he <;> cases hr
  | swept g hop => rcases hop with ⟨rfl, -⟩ | ⟨rfl, -⟩ <;> cases hr

theorem step_reads_fst (fl : Flags) (r : Repo) (now : Time) :
    (∀ id, (Repo.step fl r now (.get id)).1 = r) ∧
    (∀ q o l, (Repo.step fl r now (.find q o l)).1 = r) ∧
    (Repo.step fl r now .next).1 = r :=
  ⟨fun _ => step_read_fst fl r now rfl, fun _ _ _ => rfl, step_read_fst fl r now rfl⟩

theorem step_err_fst {fl : Flags} {r : Repo} {now : Time} {op : Op}
    (h : (Repo.step fl r now op).2.isErr = true) : (Repo.step fl r now op).1 = r := by
  have hs := step_stepped fl r now op
  generalize Repo.step fl r now op = ro at h hs
  cases hs <;> first | rfl | cases h

theorem Repo.run_eq_foldl (fl : Flags) (hist : List (Time × Op)) (r : Repo) :
    Repo.run fl r hist = hist.foldl (fun r x => (Repo.step fl r x.1 x.2).1) r := by
  induction hist generalizing r with
  | nil => rfl
  | cons x rest ih => exact ih _

theorem Repo.allSteps_prefix {fl : Flags} {P : Repo → Time → Op → Prop} {r : Repo}
    {pre rest : List (Time × Op)} {now : Time} {op : Op}
    (h : Repo.allSteps fl P r (pre ++ (now, op) :: rest)) : P (Repo.run fl r pre) now op := by
  induction pre generalizing r with
  | nil => exact h.1
  | cons x xs ih => obtain ⟨n, o⟩ := x; exact ih h.2

namespace Ex

def p1 : Param := { workId := some "w", scheduledAt := some 5000000 }

def tA : Task :=
  { id := "a", workId := "w", priority := 0, state := .dispatched, err := "", param := [], meta_ := [],
    scheduledAt := 5000000, createdAt := 1000000, deadline := none, cancelledAt := none,
    dispatchedAt := some 2000000, doneAt := none }

def tB : Task := { tA with id := "b", state := .scheduled, dispatchedAt := none }

def repo : Repo := { tasks := [tA, tB] }

/-- A history through every lifecycle operation, ending with tasks in three different states. -/
def hist : List (Time × Op) :=
  [(1000000, .add "a" p1), (2000000, .add "b" p1), (3000000, .update "a" { priority := some 3 }),
   (3000000, .dispatch "a"), (4000000, .cancel "b"), (4000500, .cancel "b"), (5000000, .add "c" p1),
   (6000000, .dispatch "c"), (7000000, .done "a" (some "boom")), (8000000, .get "a"), (9000000, .next),
   (9000000, .find {} 0 (-1)), (9500000, .add "" p1)]

/-- The pinned source: `RevertDispatched` does not clear `dispatched_at` (D8). -/
def d8Flags : Flags := { revertClears := false }

def d8Hist : List (Time × Op) :=
  [(1000000, .add "a" { workId := some "w", scheduledAt := some 5000000 }),
   (2000000, .dispatch "a"),
   (3000000, .revert)]

theorem repo_wf : repo.WF := by unfold Repo.WF; decide

theorem hist_fresh : Repo.FreshHist {} {} hist := by
  simp only [hist, Repo.FreshHist, Op.fresh]
  decide

theorem hist_states : (Repo.run {} {} hist).tasks.map (·.state) = [.err, .cancelled, .dispatched] := by
  decide

end Ex

end Gk
