/-
C05 progress: the fair fault-free driver `autoAct` and its rounds (`drive`, `driveRound`, `rounds`).
`autoAct` is one schedule of a fault-free environment; `AutoStep` says what a move of such an environment is in
terms of the scheduler's transitions `World.Sched` (outside `select` any enabled fault-free action, inside `select`
the ready branch of highest priority), and everything the driver keeps (`rank`, `StartedOk`, `SelOk`,
`RoundInv`) is proved of every such move. The `round_*` lemmas follow the scheduler along one concrete call.
-/
import Gk.Proofs.WorldLive
import Gk.Proofs.SchedEq
namespace Gk.Live
open Gk

/-- states that the fair driver hands to `Retry` -/
def retryable : SS → Bool
  | .timerUpdateError _ => true
  | .dispatchErr _ e => !World.isDefError e
  | .taskDone _ _ (some e) => !World.isDefError e
  | _ => false

theorem retryable_dispatchErr {w : World} {t : Task} {e : Err} (hr : w.ret = .dispatchErr t e) :
    retryable w.ret = true ↔ World.isDefError e = false := by
  simp [hr, retryable]

theorem retryable_taskDone {w : World} {id : String} {o : Outcome} {e : Err}
    (hr : w.ret = .taskDone id o (some e)) : retryable w.ret = true ↔ World.isDefError e = false := by
  simp [hr, retryable]

/-- The fair, fault-free environment + driver: the next action at every program counter. -/
def autoAct (w : World) : Act :=
  match w.pc with
  | .idle => if retryable w.ret then .sched .beginRetry else .sched .beginStep
  | .s_lastErr0 | .s_lastErr1 | .r_lastErr => .sched .lastTimerErr
  | .s_stop | .r_stop => .sched .stopTimer
  | .s_start | .r_start => .sched (.startTimer none)
  | .s_select =>
    if w.obs.clock.pending then .sched .selTimer
    else match w.completed with
      | (id, _) :: _ => .sched (.selResult id)
      | [] => match w.running with
        | (id, _) :: _ => .complete id .nil
        | [] => match w.obs.clock.armed with
          | some d => .advance d
          | none => .sched .selCtx
  | .s_getNext => .sched (.getNext .none)
  | .s_nextSched _ => .sched .nextScheduled
  | .s_markDone _ _ | .r_markDone _ _ => .sched (.markDone .none)
  | .d_wait _ _ => .sched (.waitWorker true)
  | .d_mark _ _ => .sched (.markDispatched .none none)
  | .d_get _ | .r_getById _ => .sched (.getById .none)

def drive : Nat → World → World
  | 0, w => w
  | n + 1, w => if (w.step (autoAct w)).pc = .idle then w.step (autoAct w) else drive n (w.step (autoAct w))

/-- one `Step` (or `Retry`, if the last state is retryable) of the fair fault-free driver -/
def driveRound (w : World) : World := drive 12 w

theorem autoAct_ok (w : World) : World.UserOk w (autoAct w) ∧ World.DriverOk w (autoAct w) := by
  unfold autoAct
  split
  · split
    · exact ⟨trivial, trivial⟩
    · next hq =>
      refine ⟨trivial, ?_⟩
      simp only [World.DriverOk]
      split
      · next t e hr =>
        simp only [hr, retryable, Bool.not_eq_true', Bool.not_eq_false] at hq
        exact hq
      · trivial
  all_goals first
    | exact ⟨trivial, trivial⟩
    | (repeat' split) <;> exact ⟨trivial, trivial⟩

theorem drive_inv {Q : World → Prop} (hQ : ∀ w, Q w → Q (w.step (autoAct w))) :
    ∀ (n : Nat) (w : World), Q w → Q (drive n w)
  | 0, _, h => h
  | n + 1, w, h => by
    simp only [drive]
    split
    · exact hQ w h
    · exact drive_inv hQ n _ (hQ w h)

theorem LiveInv.drive {w : World} (h : LiveInv w) (n : Nat) : LiveInv (drive n w) :=
  drive_inv (fun w h => h.step_free _ (autoAct_ok w).1) n w h

theorem drive_idle {n : Nat} {w : World} (h : (w.step (autoAct w)).pc = .idle) :
    drive (n + 1) w = w.step (autoAct w) := by
  simp only [drive, h, ↓reduceIte]

theorem drive_next {n : Nat} {w : World} (h : (w.step (autoAct w)).pc ≠ .idle) :
    drive (n + 1) w = drive n (w.step (autoAct w)) := by
  simp only [drive, h, ↓reduceIte]

/-- distance to the end of the round -/
def rank (w : World) : Nat :=
  match w.pc with
  | .idle => 12
  | .s_lastErr0 => 11
  | .s_stop => 10
  | .s_start => 9
  | .s_lastErr1 => 8
  | .s_select =>
    if w.obs.clock.pending then 5
    else match w.completed with
      | _ :: _ => 3
      | [] => match w.running with
        | _ :: _ => 4
        | [] => match w.obs.clock.armed with
          | some _ => 6
          | none => 1
  | .s_getNext => 4
  | .s_nextSched _ => 1
  | .s_markDone _ _ => 1
  | .d_wait _ _ => 3
  | .d_mark _ _ => 2
  | .d_get _ => 1
  | .r_stop => 4
  | .r_start => 3
  | .r_lastErr => 1
  | .r_getById _ => 4
  | .r_markDone _ _ => 1

/-- scheduler actions of a fault-free environment: no injected fault, a free worker, no cancellation -/
def _root_.Gk.SAct.Fair : SAct → Prop
  | .cancelCtx | .markDispatchedCore => False
  | .startTimer hf => hf = none
  | .getNext f | .markDone f | .getById f => f = .none
  | .waitWorker acquired => acquired = true
  | .markDispatched f hf => f = .none ∧ hf = none
  | _ => True

/-- One move of the fair fault-free driver. Outside `select`: the enabled scheduler action, without fault; between
two calls the driver's discipline: `Retry` exactly over a retryable state. Inside
`select`, by priority: the timer branch, a queued result, the completion of running work, the advance of the clock
to the armed deadline, and — blocked — the end of the context. -/
inductive AutoStep (w : World) : World → Prop
  | sched {a : SAct} {w' : World} (hpc : w.pc ≠ .s_select) (hf : a.Fair) (hen : w.Enabled a)
      (hd : w.pc = .idle → (retryable w.ret = true ↔ a = .beginRetry)) (hs : w.Sched a w') : AutoStep w w'
  | timer (hpc : w.pc = .s_select) (hp : w.obs.clock.pending = true) :
      AutoStep w
        { w with obs := { w.obs with clock := { w.obs.clock with pending := false } }, pc := .s_getNext }
  | cancelled {id : String} {rest : List (String × Outcome)} (hpc : w.pc = .s_select)
      (hp : w.obs.clock.pending = false) (hc : w.completed = (id, .ctxCanceled) :: rest) :
      AutoStep w
        { w with completed := w.completed.filter (·.1 != id), reported := w.reported ++ [(id, .ctxCanceled)],
                 ret := .taskDone id .ctxCanceled none, pc := .idle }
  | result {id : String} {o : Outcome} {rest : List (String × Outcome)} (hpc : w.pc = .s_select)
      (hp : w.obs.clock.pending = false) (hc : w.completed = (id, o) :: rest) (ho : o ≠ .ctxCanceled) :
      AutoStep w
        { w with completed := w.completed.filter (·.1 != id), reported := w.reported ++ [(id, o)],
                 pc := .s_markDone id o }
  | complete {id : String} {t : Task} {rest : List (String × Task)} (hpc : w.pc = .s_select)
      (hp : w.obs.clock.pending = false) (hc : w.completed = []) (hr : w.running = (id, t) :: rest) :
      AutoStep w
        { w with running := w.running.filter (·.1 != id), completed := w.completed ++ [(id, .nil)] }
  | advance {d : Time} (hpc : w.pc = .s_select) (hp : w.obs.clock.pending = false) (hc : w.completed = [])
      (hr : w.running = []) (ha : w.obs.clock.armed = some d) :
      AutoStep w { w with obs := { w.obs with clock := w.obs.clock.advance d } }
  | blocked (hpc : w.pc = .s_select) (hp : w.obs.clock.pending = false) (hc : w.completed = [])
      (hr : w.running = []) (ha : w.obs.clock.armed = none) :
      AutoStep w { w with ret := .awaitingNext, pc := .idle }

theorem AutoStep.of_arm {w : World} {p : Pc} (a : SAct) (hpc : w.pc = p) (hp : p ≠ .s_select) (hf : a.Fair)
    (harm : World.Arm p a) (hd : p = .idle → (retryable w.ret = true ↔ a = .beginRetry) := by nofun)
    (h1 : a ≠ .selTimer := by nofun) (h2 : ∀ id, a ≠ .selResult id := by nofun) :
    AutoStep w (w.step (.sched a)) :=
  .sched (hpc ▸ hp) hf ⟨hpc ▸ harm, fun h => absurd h h1, fun id h => absurd h (h2 id)⟩ (hpc ▸ hd)
    (World.sched_spec w a)

theorem find_head {α : Type} (id : String) (x : α) (rest : List (String × α)) :
    ((id, x) :: rest).find? (·.1 == id) = some (id, x) := by
  simp only [List.find?, beq_self_eq_true]

theorem auto_spec (w : World) : AutoStep w (w.step (autoAct w)) := by
  unfold autoAct
  split
  next hpc =>
    split
    · next hq => exact .of_arm .beginRetry hpc nofun trivial .beginRetry (fun _ => ⟨fun _ => rfl, fun _ => hq⟩)
    · next hq => exact .of_arm .beginStep hpc nofun trivial .beginStep (fun _ => ⟨fun h => absurd h hq, nofun⟩)
  next hpc => exact .of_arm _ hpc nofun trivial .lastErr0
  next hpc => exact .of_arm _ hpc nofun trivial .lastErr1
  next hpc => exact .of_arm _ hpc nofun trivial .rLastErr
  next hpc => exact .of_arm _ hpc nofun trivial .stop
  next hpc => exact .of_arm _ hpc nofun trivial .rStop
  next hpc => exact .of_arm _ hpc nofun rfl (.start _)
  next hpc => exact .of_arm _ hpc nofun rfl (.rStart _)
  next hpc =>
    -- `select`: the scheduler's three branches are read off its equations at `s_select`
    split
    · next hp =>
      show AutoStep w (w.sched .selTimer).1
      rw [World.sched_selTimer hpc, Clock.consume, if_pos hp]
      exact .timer hpc hp
    · next hp =>
      have hp : w.obs.clock.pending = false := by simpa using hp
      split
      · next id o rest hc =>
        have hfind := find_head id o rest
        rw [← hc] at hfind
        show AutoStep w (w.sched (.selResult id)).1
        rw [World.sched_selResult hpc, hfind]
        dsimp only
        split
        · next ho => cases beq_iff_eq.1 ho; exact .cancelled hpc hp hc
        · next ho => exact .result hpc hp hc (by simpa using ho)
      · next hc =>
        split
        · next id t rest hr =>
          simp only [World.step, hr, find_head]
          rw [← hr]
          exact .complete hpc hp hc hr
        · next hr =>
          split
          · next d ha => exact .advance hpc hp hc hr ha
          · next ha =>
            show AutoStep w (w.sched .selCtx).1
            rw [World.sched_selCtx hpc]
            exact .blocked hpc hp hc hr ha
  next hpc => exact .of_arm _ hpc nofun rfl (.getNext _)
  next hpc => exact .of_arm _ hpc nofun trivial (.nextScheduled _)
  next hpc => exact .of_arm _ hpc nofun rfl (.markDone _ _ _)
  next hpc => exact .of_arm _ hpc nofun rfl (.redone _ _ _)
  next hpc => exact .of_arm _ hpc nofun rfl (.waitWorker _ _ _)
  next hpc => exact .of_arm _ hpc nofun ⟨rfl, rfl⟩ (.markDispatched _ _ _ _)
  next hpc => exact .of_arm _ hpc nofun rfl (.getById _ _)
  next hpc => exact .of_arm _ hpc nofun rfl (.refetch _ _)

theorem rank_select_le {w : World} (hpc : w.pc = .s_select) : rank w ≤ 6 := by
  simp only [rank, hpc]
  repeat' split
  all_goals omega

theorem AutoStep.rank_lt {w w' : World} (h : AutoStep w w') : w'.pc = .idle ∨ rank w' < rank w := by
  cases h with
  | sched hpc hf hen _ hs =>
    cases hs with
    | stuck h => exact absurd hen h
    | cancelCtx => exact hf.elim
    | selTimer hpc' | selResult hpc' => exact absurd hpc' hpc
    | stepRestart hpc' | step hpc' | lastErr0Err hpc' | lastErr0Task hpc' | stop hpc' | start _ hpc'
    | lastErr1Task hpc' | getNextSome hpc' | waitRetry hpc' | waitMark hpc' | markOk hpc' | retryTimer hpc'
    | retryDispatch hpc' | retryDone hpc' | rStop hpc' | rStart _ hpc' | refetchNone hpc' | refetch hpc' =>
      exact .inr (by simp only [rank, hpc', Nat.reduceLT])
    | lastErr0Select hpc' | lastErr1Select hpc' =>
      exact .inr (Nat.lt_of_le_of_lt (rank_select_le rfl) (by simp only [rank, hpc', Nat.reduceLT]))
    | _ => exact .inl rfl
  | timer hpc hp => exact .inr (by simp only [rank, hpc, hp, ↓reduceIte, Nat.reduceLT])
  | cancelled | blocked => exact .inl rfl
  | result hpc hp hc => exact .inr (by simp only [rank, hpc, hp, hc, Bool.false_eq_true, ↓reduceIte, Nat.reduceLT])
  | complete hpc hp hc hr =>
    exact .inr (by simp only [rank, hpc, hp, hc, hr, List.nil_append, Bool.false_eq_true, ↓reduceIte, Nat.reduceLT])
  | advance hpc hp hc hr ha =>
    exact .inr (by
      simp only [rank, hpc, hp, hc, hr, ha, Clock.advance_armed ha, Bool.false_eq_true, ↓reduceIte, Nat.reduceLT])

theorem auto_rank (w : World) :
    (w.step (autoAct w)).pc = .idle ∨ rank (w.step (autoAct w)) < rank w :=
  (auto_spec w).rank_lt

theorem rank_pos (w : World) : 1 ≤ rank w := by
  unfold rank; repeat' split
  all_goals omega

theorem rank_le (w : World) : rank w ≤ 12 := by
  unfold rank; repeat' split
  all_goals omega

theorem drive_induct {Q R : World → Prop}
    (hQ : ∀ w, Q w → (w.step (autoAct w)).pc ≠ .idle → Q (w.step (autoAct w)))
    (hR : ∀ w, Q w → (w.step (autoAct w)).pc = .idle → R (w.step (autoAct w))) :
    ∀ (n : Nat) (w : World), Q w → rank w ≤ n → R (drive n w)
  | 0, w, _, h => absurd (rank_pos w) (by omega)
  | n + 1, w, hq, h => by
    simp only [drive]
    split
    · next hi => exact hR w hq hi
    · next hne =>
      rcases auto_rank w with h1 | h1
      · exact absurd h1 hne
      · exact drive_induct hQ hR n _ (hQ w hq hne) (by omega)

theorem driveRound_idle (w : World) : (driveRound w).pc = .idle :=
  drive_induct (Q := fun _ => True) (R := fun w => w.pc = .idle) (fun _ _ _ => trivial) (fun _ _ hi => hi) 12 w
    trivial (rank_le w)

theorem update_started (o : Obs) (f : Option Err) : (o.update f).hook.started = o.hook.started :=
  (update_frame o f).2.2.1

theorem mut_step_started {o : Obs} {op : Obs.OOp} {m} (hm : op.mut = some m) (f : Option Err) :
    (o.step op f).1.hook.started = o.hook.started := by
  rw [Obs.step_mut hm]
  split
  · rfl
  · exact Obs.act_started ..

/-- outside the two-call window `StopTimer(); StartTimer()` the timer is started -/
def StartedOk (w : World) : Prop :=
  w.obs.hook.started = true ∨ w.pc = .s_start ∨ w.pc = .r_start

theorem StartedOk.of_sched {w w' : World} {a : SAct} (h : StartedOk w) (hs : w.Sched a w') :
    StartedOk w' := by
  cases hs with
  | stop | rStop => exact .inr (by simp)
  | start | rStart => exact .inl (Obs.startTimer_started _ _)
  | markErr hpc | markOk hpc =>
    exact .inl (by
      rw [mut_step_started (op := .dispatch _) rfl]
      exact h.resolve_right (by simp only [hpc, reduceCtorEq, or_self, not_false_eq_true]))
  | stuck | cancelCtx => exact h
  | _ => exact .inl (h.resolve_right (by simp only [*, reduceCtorEq, or_self, not_false_eq_true]))

theorem StartedOk.step {w : World} (h : StartedOk w) (a : Act) (hu : World.UserOk w a) :
    StartedOk (w.step a) := by
  cases a with
  | sched a => exact h.of_sched (World.sched_spec w a)
  | user op hf =>
    obtain ⟨_, _, hm⟩ := (userOk_cases hu).1.mut
    unfold StartedOk at h ⊢
    simp only [World.step, mut_step_started hm hf]
    exact h
  | advance t => exact h
  | complete id o =>
    simp only [World.step]
    split <;> exact h

theorem StartedOk.init (t0 : Time) : StartedOk (World.init' t0) := by
  left
  exact Obs.startTimer_started _ none

theorem StartedOk.run {w : World} (h : StartedOk w) (acts : List Act) (hs : World.Script w acts) :
    StartedOk (w.run acts) := by
  induction acts generalizing w with
  | nil => exact h
  | cons a rest ih => exact ih (h.step a hs.1) hs.2.2

/-- inside `Step`'s select the restart prologue has seen no timer error (fault-free round) -/
def SelOk (w : World) : Prop := w.pc = .s_select → w.obs.hook.lastErr = none

theorem SelOk.of_sched {w w' : World} {a : SAct} (h : SelOk w) (hs : w.Sched a w') : SelOk w' := by
  cases hs with
  | stuck | cancelCtx => exact h
  | lastErr0Select _ he => exact fun _ => by simpa using he
  | lastErr1Select _ he => exact fun _ => he
  | _ => exact nofun

theorem SelOk.auto_step {w w' : World} (h : SelOk w) (ha : AutoStep w w') : SelOk w' := by
  cases ha with
  | sched _ _ _ _ hs => exact h.of_sched hs
  | complete hpc | advance hpc => exact fun _ => h hpc
  | _ => exact nofun

def RoundInv (w : World) : Prop := LiveInv w ∧ StartedOk w ∧ SelOk w

theorem RoundInv.auto {w : World} (h : RoundInv w) : RoundInv (w.step (autoAct w)) :=
  ⟨h.1.step_free _ (autoAct_ok w).1, h.2.1.step _ (autoAct_ok w).1, h.2.2.auto_step (auto_spec w)⟩

theorem RoundInv.of_idle {w : World} (hL : LiveInv w) (hS : StartedOk w) (hpc : w.pc = .idle) : RoundInv w :=
  ⟨hL, hS, fun h => by rw [hpc] at h; cases h⟩

/-- a blocked `select` (no fire pending, nothing armed) with the hook-timer invariant in force: nothing is
scheduled — else the timer would be armed or have fired (`Inv.neverLate`) -/
theorem blocked_none_scheduled {w : World} (h : RoundInv w) (hpc : w.pc = .s_select)
    (hp : w.obs.clock.pending = false) (ha : w.obs.clock.armed = none) :
    ∀ t ∈ w.obs.repo.tasks, t.state ≠ .scheduled := by
  obtain ⟨hL, hS, hSel⟩ := h
  have hI : Inv w.obs := hL.inv_of_not (by simp only [OwesHeld, hpc, not_false_eq_true])
    (by simp [Restart, restartPc, hpc])
  have hst : w.obs.hook.started = true := hS.resolve_right (by simp only [hpc, reduceCtorEq, or_self, not_false_eq_true])
  cases hn : w.obs.repo.getNext with
  | none => exact Repo.getNext_none_iff.1 hn
  | some hd =>
    rcases hI.head_timed hst (hSel hpc) hn with h | ⟨d, h, _⟩
    · rw [hp] at h; cases h
    · rw [ha] at h; cases h

/-- the only way a move of the fair driver ends a call with `AwaitingNext` is the blocked select, and that
happens only when nothing is scheduled -/
theorem AutoStep.awaiting {w w' : World} (ha : AutoStep w w') (h : RoundInv w) (hi : w'.pc = .idle)
    (hr : w'.ret = .awaitingNext) : ∀ t ∈ w'.obs.repo.tasks, t.state ≠ .scheduled := by
  cases ha with
  | blocked hpc hp _ _ ha => exact blocked_none_scheduled (w := w) h hpc hp ha
  | sched hpc hf hen _ hs =>
    cases hs with
    | stuck h => exact absurd hen h
    | cancelCtx => exact hf.elim
    | selCtx hpc' => exact absurd hpc' hpc
    | _ => first | (cases hr; done) | (cases hi; done)
  | complete hpc | advance hpc => cases hpc.symm.trans hi
  | _ => first | (cases hr; done) | (cases hi; done)

theorem blocks_only_if_idle {w : World} (h : RoundInv w)
    (hi : (w.step (autoAct w)).pc = .idle) (hr : (w.step (autoAct w)).ret = .awaitingNext) :
    ∀ t ∈ (w.step (autoAct w)).obs.repo.tasks, t.state ≠ .scheduled :=
  (auto_spec w).awaiting h hi hr

theorem round_never_blocks {w : World} (hL : LiveInv w) (hS : StartedOk w) (hpc : w.pc = .idle)
    (hr : (driveRound w).ret = .awaitingNext) :
    ∀ t ∈ (driveRound w).obs.repo.tasks, t.state ≠ .scheduled :=
  drive_induct (Q := RoundInv)
    (R := fun w' => w'.ret = .awaitingNext → ∀ t ∈ w'.obs.repo.tasks, t.state ≠ .scheduled)
    (fun w h _ => h.auto) (fun w h hi hr => blocks_only_if_idle h hi hr) 12 w (.of_idle hL hS hpc) (rank_le w) hr

theorem lookup_replace (r : Repo) (id : String) (F : Task → Task) (hid : ∀ t, (F t).id = t.id) :
    (r.replace id F).lookup id = (r.lookup id).map F := by
  rw [Repo.lookup_replace r id hid id, if_pos rfl]

theorem dispatch_step_scheduled (o : Obs) (id : String) (f : Option Err) {u : Task}
    (hl : o.repo.lookup id = some u) (hs : u.state = .scheduled) :
    (o.step (.dispatch id) f).2 = .ok ∧
      (o.step (.dispatch id) f).1.repo.lookup id =
        some { u with state := .dispatched, dispatchedAt := some (normalize o.clock.now) } := by
  refine ⟨?_, ?_⟩
  · rw [dispatch_step_out]; exact congrArg Prod.snd ((Edit.dispatch id).step_hit {} hl hs)
  · rw [dispatch_step_repo_core]; exact (Edit.dispatch id).lookup_hit {} hl hs

/-- the world after the announced task `t` has been marked, fetched as `cur` and started -/
def afterDispatch (w : World) (t cur : Task) : World :=
  { w with ctxDone := false, lastTask := none, getNextErr := false, pc := .idle,
           obs := (w.obs.step (.dispatch t.id) none).1,
           running := w.running ++ [(t.id, cur)],
           log := w.log ++ [{ id := t.id, at_ := w.obs.clock.now, task := cur }],
           ret := .dispatched t.id }

/-- The dispatch round: a `Step` that starts with an announced task `t` that is still stored as
scheduled (no restart pending, free worker, no fault) marks it, fetches the dispatched record `cur`,
starts its work function (`log`, `running`) and returns `Dispatched`; `lastTask` is cleared. -/
theorem round_dispatch {w : World} {t u : Task} (hpc : w.pc = .idle) (hq : retryable w.ret = false)
    (hg : w.getNextErr = false) (he : w.obs.hook.lastErr = none) (hl : w.lastTask = some t)
    (hu : w.obs.repo.lookup t.id = some u) (hs : u.state = .scheduled) :
    let cur : Task := { u with state := .dispatched, dispatchedAt := some (normalize w.obs.clock.now) }
    driveRound w = afterDispatch w t cur := by
  intro cur
  have ⟨hd1, hd2⟩ := dispatch_step_scheduled w.obs t.id none hu hs
  have hnow : (w.obs.step (.dispatch t.id) none).1.clock.now = w.obs.clock.now := step_now _ _ _ nofun
  simp [driveRound, drive, autoAct, World.step, World.sched_beginStep, World.sched_lastErr0, World.afterPrologue_some,
    World.sched_wait (t := t) (retry := false), World.sched_mark (t := t) (retry := false), World.sched_get (t := t),
    hpc, hq, hg, he, hl, hd1, hd2, World.finish, hnow, cur, afterDispatch]

def afterAnnounce (w : World) (hd : Task) : World :=
  { w with ctxDone := false, lastTask := some hd, getNextErr := false, pc := .idle,
           obs := { w.obs with clock := { w.obs.clock with pending := false } },
           ret := .nextTask (some hd) none }

/-- The announce round: a `Step` that starts with a pending fire, no restart pending, nothing
announced, a trusted cache and a due head `hd` consumes the fire and announces exactly `hd`
(`lastTask = some hd`, state `NextTask hd`): the next round is a dispatch round. -/
theorem round_announce {w : World} {hd : Task} (hI : Inv w.obs) (hpc : w.pc = .idle)
    (hq : retryable w.ret = false) (hg : w.getNextErr = false) (hst : w.obs.hook.started = true)
    (he : w.obs.hook.lastErr = none) (hl : w.lastTask = none) (hp : w.obs.clock.pending = true)
    (hstale : w.obs.hook.stale = false) (hn : w.obs.repo.getNext = some hd)
    (hdue : hd.scheduledAt ≤ w.obs.clock.now) :
    driveRound w = afterAnnounce w hd := by
  obtain ⟨c0, hc, _, y2, _, htr, _⟩ := hI.trusted_head hst he hstale hn
  have hdue' : ¬ (w.obs.clock.now < c0.scheduledAt) := by rw [← y2]; exact Int.not_lt.2 hdue
  simp [driveRound, drive, autoAct, World.step, World.sched_beginStep, World.sched_lastErr0,
    World.afterPrologue_none, World.sched_selTimer, World.sched_getNext, World.sched_nextSched, hpc, hq, hg, he, hl,
    hp, Clock.consume, hn, Obs.nextScheduled, hc, htr, y2, hdue', World.finish, afterAnnounce]

def restartedDue (o : Obs) (hd : Task) : Obs :=
  { o with hook := { o.hook with cached := some hd, stale := false, timerReset := true,
                                 started := true, lastErr := none },
           clock := { o.clock with armed := none, pending := true } }

theorem stopAndDrain_twice (c : Clock) :
    c.stopAndDrain.stopAndDrain = { c with armed := none, pending := false } := by
  obtain ⟨n, a, p⟩ := c
  cases a <;> simp [Clock.stopAndDrain]

theorem restart_due {o : Obs} {hd : Task} (hn : o.repo.getNext = some hd)
    (hdue : hd.scheduledAt ≤ o.clock.now) :
    o.stopTimer.startTimer none = restartedDue o hd := by
  unfold Obs.startTimer Obs.stopTimer Obs.update restartedDue
  simp only [Bool.not_true, Bool.false_eq_true, ↓reduceIte, hn, stopAndDrain_twice]
  rw [Clock.reset_quiet, if_pos hdue]

/-- The restart round (the repaired D12 path): a `Step` that starts with `getNextErr` set, nothing
announced and a due head `hd` restarts the timer (which fires at once), consumes the fire and
announces `hd`, all in the same call. -/
theorem round_restart_announce {w : World} {hd : Task} (hpc : w.pc = .idle)
    (hq : retryable w.ret = false) (hg : w.getNextErr = true) (hl : w.lastTask = none)
    (hn : w.obs.repo.getNext = some hd) (hdue : hd.scheduledAt ≤ w.obs.clock.now) :
    driveRound w = afterAnnounce { w with obs := restartedDue w.obs hd } hd := by
  have hr := restart_due hn hdue
  simp [driveRound, drive, autoAct, World.step, World.sched_beginStep_restart, World.sched_stop, World.sched_start,
    World.sched_lastErr1, World.afterPrologue_none, World.sched_selTimer, World.sched_getNext, World.sched_nextSched,
    hpc, hq, hg, hr, restartedDue, hl, Clock.consume, hn, Obs.nextScheduled, hdue, World.finish, afterAnnounce]

theorem head_lookup {o : Obs} {hd : Task} (hok : TasksOk o.repo.tasks o.clock.now)
    (hn : o.repo.getNext = some hd) : o.repo.lookup hd.id = some hd :=
  hok.lookup_mem (Repo.getNext_mem hn)

/-- Two rounds run a due head: announce (directly, or after the restart that `getNextErr` asks for)
and dispatch. -/
theorem two_rounds_run_head {w : World} {hd : Task} (hL : LiveInv w) (hpc : w.pc = .idle)
    (hq : retryable w.ret = false) (hl : w.lastTask = none) (hst : w.obs.hook.started = true)
    (he : w.obs.hook.lastErr = none) (hn : w.obs.repo.getNext = some hd)
    (hdue : hd.scheduledAt ≤ w.obs.clock.now)
    (hc : w.getNextErr = true ∨
      (w.getNextErr = false ∧ w.obs.clock.pending = true ∧ w.obs.hook.stale = false)) :
    ∃ w1 : World, driveRound w = w1 ∧ w1.lastTask = some hd ∧ w1.obs.repo = w.obs.repo ∧
      w1.obs.clock.now = w.obs.clock.now ∧ w1.log = w.log ∧ w1.running = w.running ∧
      driveRound w1 = afterDispatch w1 hd
        { hd with state := .dispatched, dispatchedAt := some (normalize w.obs.clock.now) } := by
  have hok := hL.tasksOk
  have hlk := head_lookup hok hn
  have hsc := Repo.getNext_scheduled hn
  rcases hc with hg | ⟨hg, hp, hstale⟩
  · refine ⟨_, round_restart_announce hpc hq hg hl hn hdue, rfl, rfl, rfl, rfl, rfl, ?_⟩
    exact round_dispatch (w := afterAnnounce { w with obs := restartedDue w.obs hd } hd)
      rfl rfl rfl rfl rfl hlk hsc
  · have hI : Inv w.obs := by
      rcases hL.hook with hI | ⟨hd', _, _⟩ | ⟨_, hR⟩
      · exact hI
      · rw [hd'.2] at hp; cases hp
      · rw [hR.1] at hg; cases hg
    refine ⟨_, round_announce hI hpc hq hg hst he hl hp hstale hn hdue, rfl, rfl, rfl, rfl, rfl, ?_⟩
    exact round_dispatch (w := afterAnnounce w hd) rfl rfl rfl he rfl hlk hsc

theorem RoundInv.drive {w : World} (h : RoundInv w) (n : Nat) : RoundInv (drive n w) :=
  drive_inv (fun _ h => h.auto) n w h

theorem round_inv {w : World} (hL : LiveInv w) (hS : StartedOk w) (hpc : w.pc = .idle) :
    LiveInv (driveRound w) ∧ StartedOk (driveRound w) ∧ (driveRound w).pc = .idle := by
  have hR := (RoundInv.of_idle hL hS hpc).drive 12
  exact ⟨hR.1, hR.2.1, driveRound_idle w⟩

theorem DispInv.drive {w : World} (hL : LiveInv w) (h : DispInv w) (n : Nat) : DispInv (drive n w) :=
  (drive_inv (Q := fun w => LiveInv w ∧ DispInv w)
    (fun w h => ⟨h.1.step_free _ (autoAct_ok w).1, h.2.step h.1 _ (autoAct_ok w).1 (autoAct_ok w).2⟩)
    n w ⟨hL, h⟩).2

def rounds : Nat → World → World
  | 0, w => w
  | n + 1, w => rounds n (driveRound w)

theorem rounds_ind {Q : World → Prop} (hQ : ∀ w, Q w → Q (driveRound w)) :
    ∀ (n : Nat) (w : World), Q w → Q (rounds n w)
  | 0, _, h => h
  | n + 1, w, h => rounds_ind hQ n _ (hQ w h)

theorem rounds_inv_auto {Q : World → Prop} (hQ : ∀ w, Q w → Q (w.step (autoAct w))) (n : Nat) (w : World)
    (h : Q w) : Q (rounds n w) :=
  rounds_ind (drive_inv hQ 12) n w h

end Gk.Live
