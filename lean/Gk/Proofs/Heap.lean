/-
Correctness of `Gk.H`, the port of Go's `container/heap` with the `sortabletask` swap/push/pop hooks that
maintain every element's `Index` field: the modules `HeapBasic` … `HeapInit` collected, with corollaries
(Nodup / size / membership after each operation).
-/
import Gk.Proofs.HeapBasic
import Gk.Proofs.HeapUp
import Gk.Proofs.HeapDown
import Gk.Proofs.HeapOps
import Gk.Proofs.HeapInit

set_option linter.unusedSectionVars false

namespace Gk
namespace H
variable {α : Type} [DecidableEq α]

theorem push_nodup {lt : α → α → Bool} (o : LtOrder lt) (h : H α) (x : α)
    (hx : x ∉ h.arr.toList) (nd : h.arr.toList.Nodup) (hh : IsHeap lt h.arr) (ok : IdxOk h) :
    (push lt h x).arr.toList.Nodup := by
  have p := (push_correct o h x hx nd hh ok).1
  rw [p.nodup_iff, List.nodup_cons]
  exact ⟨hx, nd⟩

theorem push_mem {lt : α → α → Bool} (o : LtOrder lt) (h : H α) (x : α)
    (hx : x ∉ h.arr.toList) (nd : h.arr.toList.Nodup) (hh : IsHeap lt h.arr) (ok : IdxOk h) (y : α) :
    y ∈ (push lt h x).arr.toList ↔ y = x ∨ y ∈ h.arr.toList := by
  have p := (push_correct o h x hx nd hh ok).1
  rw [p.mem_iff, List.mem_cons]

theorem push_size (lt : α → α → Bool) (h : H α) (x : α) :
    (push lt h x).arr.size = h.arr.size + 1 := by
  unfold push
  simp

theorem remove_nodup_mem {lt : α → α → Bool} (o : LtOrder lt) (h : H α) (i : Nat)
    (hi : i < h.arr.size) (nd : h.arr.toList.Nodup) (hh : IsHeap lt h.arr) (ok : IdxOk h) :
    (remove lt h i).1.arr.toList.Nodup ∧
    (remove lt h i).1.arr.size = h.arr.size - 1 ∧
    ∀ y, y ∈ (remove lt h i).1.arr.toList ↔ y ≠ h.arr[i] ∧ y ∈ h.arr.toList := by
  obtain ⟨h', e, p, -⟩ := remove_correct o h i hi nd hh ok
  rw [e]
  refine ⟨p.nodup_iff.2 (nd.erase _), ?_, ?_⟩
  · have := p.length_eq
    rw [List.length_erase_of_mem (by simp)] at this
    simpa using this
  · intro y
    rw [p.mem_iff, nd.mem_erase_iff]

theorem pop_nodup_mem {lt : α → α → Bool} (o : LtOrder lt) (h : H α)
    (h0 : 0 < h.arr.size) (nd : h.arr.toList.Nodup) (hh : IsHeap lt h.arr) (ok : IdxOk h) :
    (pop lt h).1.arr.toList.Nodup ∧
    (pop lt h).1.arr.size = h.arr.size - 1 ∧
    ∀ y, y ∈ (pop lt h).1.arr.toList ↔ y ≠ h.arr[0] ∧ y ∈ h.arr.toList := by
  rw [pop_eq_remove]
  exact remove_nodup_mem o h 0 h0 nd hh ok

theorem fix_size (lt : α → α → Bool) (h : H α) (i : Nat) : (fix lt h i).1.arr.size = h.arr.size := by
  rw [fix_eq]
  split <;> simp

end H
end Gk
