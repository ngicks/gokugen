/-
What the runtime vocabulary of the translated code (Gk/GoRt.lean, Gk/GenGlue*.lean) computes on the values the tie
proofs meet. `simp only [go_rt]` decides the translated code's `if err != nil` / `if x.IsSome()` tests once the value
is known, instead of unfolding the shims (`Go.isNil, Go.IsNil.isNil, Go.nil, …`) in every proof.
-/
import Gk.GenGlue
import Gk.Proofs.GoRtAttr
namespace Gk
namespace Go

variable {α : Type}

@[go_rt] theorem nil_eq : (Go.nil : Option α) = none := rfl
@[go_rt] theorem isNil_none : Go.isNil (none : Option α) = true := rfl
@[go_rt] theorem isNil_some (x : α) : Go.isNil (some x) = false := rfl
@[go_rt] theorem isNil_nil : Go.isNil ([] : List α) = true := rfl
@[go_rt] theorem isNil_cons (x : α) (l : List α) : Go.isNil (x :: l) = false := rfl
/- on a value that is not known yet (not in the set: a lemma about the translated test may want to fire first) -/
theorem isNil_option (o : Option α) : Go.isNil o = o.isNone := rfl
theorem isNil_list (l : List α) : Go.isNil l = l.isEmpty := rfl
theorem not_isNil (o : Option α) : (!Go.isNil o) = o.isSome := by cases o <;> rfl

@[go_rt] theorem repoErr_eq (i k : String) (r : GoError) : Go.repoErr (Id := i) (Kind := k) (Raw := r) = some (.repo i k) :=
  rfl

/-- `v, ok := m[k]` read back as the model's lookup -/
theorem lookup_of_mapLookup (m : SMap) (k : String) :
    SMap.lookup m k = if (Go.mapLookup m k).2 = true then some (Go.mapLookup m k).1 else none := by
  unfold Go.mapLookup; cases SMap.lookup m k <;> rfl

/-- `for _, x := range xs { if p(x) { return b } }`: returns iff some element passes the test -/
theorem rangeFirst_const {α β : Type} (xs : List α) (p : α → Bool) (b : β) :
    Go.rangeFirst xs (fun x => if p x then some b else none) = if xs.any p then some b else none := by
  unfold Go.rangeFirst
  induction xs with
  | nil => rfl
  | cons x xs ih => cases h : p x <;> simp only [List.findSome?_cons, List.any_cons, h, ih] <;> rfl

/-- `if !timer.Stop() { select { case <-timer.C: default: } }`, the idiom of both timers (hook timer, cron store) -/
theorem stopDrain (c : Clock) :
    (if (!(c.Stop).2) = true then Go.clockDrain (c.Stop).1 else (c.Stop).1) = c.stopAndDrain := by
  rcases c with ⟨now, armed, pending⟩
  cases armed <;> rfl

end Go

/-- `Clone` copies the two maps, which are values here -/
theorem Gen.Def.Task.Clone_eq (t : Gen.Def.Task) : t.Clone = t := rfl

@[go_rt] theorem _root_.Option.Value_some {α : Type} [Inhabited α] (x : α) : (some x).Value = x := rfl
@[go_rt] theorem _root_.Option.Value_none {α : Type} [Inhabited α] : (none : Option α).Value = default := rfl

/- the shims that only rename a core operation: unfolded -/
attribute [go_rt] Go.maps_Clone Go.emptyMap Option.IsSome Option.IsNone Option.Pointer Option.Err Int.Sub Clock.Now
  Clock.Reset Clock.Stop Go.clockDrain

/- and what it takes to decide an `if` on the outcome -/
attribute [go_rt] Bool.not_true Bool.not_false Bool.false_eq_true if_true if_false Bool.and_false Bool.false_and
  Option.map_none Option.map_some

end Gk
