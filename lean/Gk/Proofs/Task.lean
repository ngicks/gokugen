/-
Lemmas about `Gk/Basic.lean`: the arithmetic of `normalize`, and what `Task.update`, `Param.toTask` and
`Param.normalize` do to each field. The repository, hook-timer, scheduler and cron developments import this module; nothing here mentions a
repository.
-/
import Gk.Basic
namespace Gk

/-- `omega` after unfolding the `Time` abbreviation (omega does not look through it). -/
macro "tomega" : tactic => `(tactic| ((try simp only [Time] at *) <;> omega))

theorem normalize_mod (t : Time) : normalize t % msNs = 0 := by
  unfold normalize msNs; tomega

theorem normalize_of_mod {t : Time} (h : t % msNs = 0) : normalize t = t := by
  unfold normalize; unfold msNs at *; tomega

theorem normalize_idem (t : Time) : normalize (normalize t) = normalize t :=
  normalize_of_mod (normalize_mod t)

theorem normalize_le (t : Time) : normalize t ≤ t := by
  unfold normalize msNs; tomega

theorem le_normalize {a b : Time} (h : a % msNs = 0) (hab : a ≤ b) : a ≤ normalize b := by
  unfold normalize; unfold msNs at *; tomega

theorem lt_normalize_add (t : Int) : t < normalize t + msNs := by
  simp only [normalize, msNs, Time]; omega

theorem normalize_mono {a b : Int} (h : a ≤ b) : normalize a ≤ normalize b := by
  simp only [normalize, msNs, Time]; omega

@[simp] theorem normalize_zero : normalize 0 = 0 := by decide

theorem normalize_msNs_ne : normalize 1000000 ≠ 0 := by decide

theorem isNorm_iff_mod {t : Time} : isNorm t = true ↔ t % msNs = 0 := beq_iff_eq

theorem isNorm_normalize (t : Int) : isNorm (normalize t) = true :=
  isNorm_iff_mod.mpr (normalize_mod t)

theorem normalize_of_isNorm {t : Int} (h : isNorm t = true) : normalize t = t :=
  normalize_of_mod (isNorm_iff_mod.mp h)

theorem isNorm_iff {t : Int} : isNorm t = true ↔ normalize t = t :=
  ⟨normalize_of_isNorm, fun h => h ▸ isNorm_normalize t⟩

theorem optNorm_map_normalize (o : Option Time) : optNorm (o.map normalize) = true := by
  cases o <;> simp [optNorm, isNorm_normalize]

theorem optNorm_iff (o : Option Time) : optNorm o = true ↔ o.map normalize = o := by
  cases o <;> simp [optNorm, isNorm_iff]

theorem getD_map_normalize (x : Option Time) (d : Time) :
    normalize ((x.map normalize).getD d) = normalize (x.getD d) := by
  cases x <;> simp [normalize_idem]

theorem or_some_getD (x : Option Time) (d e : Time) : (x.or (some d)).getD e = x.getD d := by
  cases x <;> rfl

theorem Task.lessHook_iff {t j : Task} (hc : t.cancelledAt = none) :
    t.lessHook j = true ↔
      ((t.scheduledAt : Int) < j.scheduledAt ∨ ((t.scheduledAt : Int) = j.scheduledAt ∧
        (t.priority > j.priority ∨ (t.priority = j.priority ∧ (t.createdAt : Int) < j.createdAt)))) := by
  unfold Task.lessHook
  by_cases h1 : t.scheduledAt = j.scheduledAt
  · by_cases h2 : t.priority = j.priority
    · simp [hc, h1, h2]
    · simp [hc, h1, h2]
  · simp [hc, h1]

theorem Task.sched_le_of_not_lessHook {t j : Task} (hc : t.cancelledAt = none) (h : t.lessHook j = false) :
    j.scheduledAt ≤ t.scheduledAt := by
  rw [← Bool.not_eq_true, Task.lessHook_iff hc] at h
  tomega

@[simp] theorem Task.update_id (t : Task) (p : Param) : (t.update p).id = t.id := rfl
@[simp] theorem Task.update_state (t : Task) (p : Param) : (t.update p).state = t.state := rfl
@[simp] theorem Task.update_err (t : Task) (p : Param) : (t.update p).err = t.err := rfl
@[simp] theorem Task.update_scheduledAt (t : Task) (p : Param) :
    (t.update p).scheduledAt = normalize (p.scheduledAt.getD t.scheduledAt) := rfl
@[simp] theorem Task.update_priority (t : Task) (p : Param) :
    (t.update p).priority = p.priority.getD t.priority := rfl
@[simp] theorem Task.update_createdAt (t : Task) (p : Param) :
    (t.update p).createdAt = normalize t.createdAt := rfl
@[simp] theorem Task.update_cancelledAt (t : Task) (p : Param) :
    (t.update p).cancelledAt = t.cancelledAt.map normalize := rfl
@[simp] theorem Task.update_dispatchedAt (t : Task) (p : Param) :
    (t.update p).dispatchedAt = t.dispatchedAt.map normalize := rfl
@[simp] theorem Task.update_doneAt (t : Task) (p : Param) :
    (t.update p).doneAt = t.doneAt.map normalize := rfl

theorem Task.update_consistent (t : Task) (p : Param) : (t.update p).consistent = t.consistent := by
  simp [Task.consistent]

@[simp] theorem Param.toTask_id (p : Param) (id : String) (c : Time) : (p.toTask id c).id = id := rfl
@[simp] theorem Param.toTask_state (p : Param) (id : String) (c : Time) :
    (p.toTask id c).state = .scheduled := rfl
@[simp] theorem Param.toTask_scheduledAt (p : Param) (id : String) (c : Time) :
    (p.toTask id c).scheduledAt = Gk.normalize (p.scheduledAt.getD 0) := rfl
@[simp] theorem Param.toTask_priority (p : Param) (id : String) (c : Time) :
    (p.toTask id c).priority = p.priority.getD 0 := rfl
/-- By `rfl`, for `simp only`; the simp normal form is `toTask_createdAt`. -/
theorem Param.toTask_createdAt (p : Param) (id : String) (c : Time) :
    (p.toTask id c).createdAt = Gk.normalize (Gk.normalize c) := rfl
@[simp] theorem toTask_createdAt (p : Param) (id : String) (now : Time) :
    (p.toTask id now).createdAt = normalize now := by
  rw [Param.toTask_createdAt, normalize_idem]
@[simp] theorem Param.toTask_cancelledAt (p : Param) (id : String) (c : Time) :
    (p.toTask id c).cancelledAt = none := rfl

@[simp] theorem Param.normalize_priority (p : Param) : p.normalize.priority = p.priority := rfl
@[simp] theorem Param.normalize_scheduledAt (p : Param) :
    p.normalize.scheduledAt = p.scheduledAt.map Gk.normalize := rfl

theorem Param.normalize_idem (p : Param) : p.normalize.normalize = p.normalize := by
  simp only [Param.normalize, Option.map_map]
  congr 1
  · cases p.scheduledAt <;> simp [Gk.normalize_idem]
  · cases p.deadline with
    | none => rfl
    | some d => cases d <;> simp [Gk.normalize_idem]

theorem toTask_normalize (p : Param) (id : String) (now : Time) :
    p.normalize.toTask id now = p.toTask id now := by
  obtain ⟨w, pr, pa, me, s, d⟩ := p
  simp only [Param.toTask, Param.normalize, Task.update, Task.normalizeTime, Task.blank]
  cases s <;> cases d <;> simp [normalize_idem]
  all_goals (rename_i d; cases d <;> simp [normalize_idem])

theorem eq_of_map_eq_of_nodup {α β : Type} {f : α → β} {l : List α} (h : (l.map f).Nodup)
    {a b : α} (ha : a ∈ l) (hb : b ∈ l) (hab : f a = f b) : a = b :=
  List.Pairwise.forall_of_forall_of_flip (R := fun a b => f a = f b → a = b) (fun _ _ _ => rfl)
    ((List.pairwise_map.mp h).imp fun hne e => absurd e hne)
    ((List.pairwise_map.mp h).imp fun hne e => absurd e.symm hne) ha hb hab

theorem find?_key_of_nodup {α β : Type} [BEq β] [LawfulBEq β] {f : α → β} {l : List α}
    (h : (l.map f).Nodup) {t : α} (ht : t ∈ l) : l.find? (f · == f t) = some t := by
  cases hf : l.find? (f · == f t) with
  | none => simpa using List.find?_eq_none.mp hf t ht
  | some t' =>
    rw [eq_of_map_eq_of_nodup h (List.mem_of_find?_eq_some hf) ht (by simpa using List.find?_some hf)]

theorem nodup_concat {α : Type} {l : List α} {a : α} (h : l.Nodup) (ha : a ∉ l) : (l ++ [a]).Nodup :=
  List.nodup_append.mpr
    ⟨h, List.pairwise_singleton _ _, fun _ hx _ hy e => ha (List.mem_singleton.mp hy ▸ e ▸ hx)⟩

theorem eraseDups_of_nodup {α} [BEq α] [LawfulBEq α] (l : List α) (h : l.Nodup) : l.eraseDups = l := by
  induction l with
  | nil => simp
  | cons a l ih =>
    rw [List.nodup_cons] at h
    rw [List.eraseDups_cons]
    have : List.filter (fun b => !b == a) l = l := by
      rw [List.filter_eq_self]
      intro b hb
      simp only [Bool.not_eq_true', beq_eq_false_iff_ne, ne_eq]
      rintro rfl
      exact h.1 hb
    rw [this, ih h.2]

end Gk
