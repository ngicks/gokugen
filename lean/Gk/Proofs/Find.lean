/-
The `Find` loop (`findLoop`, Gk/Query.lean) in closed form, `takeLim limit ((filter pred).drop offset)`, and
`isInfixOf` against its specification.
-/
import Gk.Basic
import Gk.Query
namespace Gk

/-- The `limit` convention of `Find`: negative = unlimited, `0` = nothing. -/
def takeLim {α} (l : Int) (xs : List α) : List α := if l < 0 then xs else xs.take l.toNat

@[simp] theorem takeLim_nil {α} (l : Int) : takeLim l ([] : List α) = [] := by
  unfold takeLim; split <;> simp

theorem takeLim_zero {α} (xs : List α) : takeLim 0 xs = [] := by
  simp [takeLim]

theorem takeLim_neg {α} {l : Int} (h : l < 0) (xs : List α) : takeLim l xs = xs := by
  simp [takeLim, h]

theorem takeLim_pos_cons {α} {l : Int} (h : 0 < l) (x : α) (xs : List α) :
    takeLim l (x :: xs) = x :: takeLim (l - 1) xs := by
  have h1 : ¬ l < 0 := by omega
  have h2 : ¬ l - 1 < 0 := by omega
  have h3 : l.toNat = (l - 1).toNat + 1 := by omega
  simp only [takeLim, h1, h2, if_false]
  rw [h3, List.take_succ_cons]

theorem takeLim_sublist {α} (l : Int) (xs : List α) : (takeLim l xs).Sublist xs := by
  unfold takeLim; split
  · exact List.Sublist.refl _
  · exact List.take_sublist _ _

theorem takeLim_prefix {α} (l : Int) (xs : List α) : ∃ post, xs = takeLim l xs ++ post := by
  unfold takeLim; split
  · exact ⟨[], by simp⟩
  · exact ⟨xs.drop l.toNat, (List.take_append_drop _ _).symm⟩

theorem findLoop_nil (pred : Task → Bool) (o l : Int) : findLoop pred [] o l = [] := by
  simp [findLoop]

theorem findLoop_cons_false {pred : Task → Bool} {t : Task} (h : pred t = false) (ts : List Task)
    (o l : Int) : findLoop pred (t :: ts) o l = findLoop pred ts o l := by
  simp [findLoop, h]

theorem findLoop_cons_skip {pred : Task → Bool} {t : Task} (h : pred t = true) (ts : List Task)
    {o : Int} (ho : o ≠ 0) (l : Int) :
    findLoop pred (t :: ts) o l = findLoop pred ts (o - 1) l := by
  simp [findLoop, h, ho]

theorem findLoop_cons_stop {pred : Task → Bool} {t : Task} (h : pred t = true) (ts : List Task) :
    findLoop pred (t :: ts) 0 0 = [] := by
  simp [findLoop, h]

theorem findLoop_cons_emit {pred : Task → Bool} {t : Task} (h : pred t = true) (ts : List Task)
    {l : Int} (hl : l ≠ 0) :
    findLoop pred (t :: ts) 0 l = t :: findLoop pred ts 0 (if l > 0 then l - 1 else l) := by
  simp [findLoop, h, hl]

theorem findLoop_filter (p : Task → Bool) (xs : List Task) (o l : Int) :
    findLoop p xs o l = findLoop (fun _ => true) (xs.filter p) o l := by
  induction xs generalizing o l with
  | nil => rfl
  | cons x xs ih =>
    cases hp : p x <;> simp only [findLoop, hp, List.filter_cons, ih, if_true, Bool.false_eq_true, if_false]

theorem findLoop_neg (pred : Task → Bool) (ts : List Task) (offset limit : Int) (h : offset < 0) :
    findLoop pred ts offset limit = [] := by
  induction ts generalizing offset with
  | nil => exact findLoop_nil ..
  | cons t ts ih =>
    cases hp : pred t
    · rw [findLoop_cons_false hp]; exact ih _ h
    · rw [findLoop_cons_skip hp ts (by omega)]; exact ih _ (by omega)

theorem findLoop_eq (pred : Task → Bool) (ts : List Task) (offset limit : Int) (h : 0 ≤ offset) :
    findLoop pred ts offset limit = takeLim limit ((ts.filter pred).drop offset.toNat) := by
  induction ts generalizing offset limit with
  | nil => simp [findLoop_nil]
  | cons t ts ih =>
    cases hp : pred t
    · rw [findLoop_cons_false hp, List.filter_cons_of_neg (by simp [hp])]; exact ih _ _ h
    · rw [List.filter_cons_of_pos hp]
      by_cases ho : offset = 0
      · subst ho
        simp only [Int.toNat_zero, List.drop_zero]
        by_cases hl : limit = 0
        · subst hl; rw [findLoop_cons_stop hp, takeLim_zero]
        · rw [findLoop_cons_emit hp ts hl, ih _ _ (Int.le_refl 0)]
          simp only [Int.toNat_zero, List.drop_zero]
          by_cases hpos : limit > 0
          · rw [if_pos hpos, takeLim_pos_cons hpos]
          · have hneg : limit < 0 := by omega
            rw [if_neg hpos, takeLim_neg hneg, takeLim_neg hneg]
      · rw [findLoop_cons_skip hp ts ho, ih _ _ (by omega)]
        have h1 : offset.toNat = (offset - 1).toNat + 1 := by omega
        rw [h1, List.drop_succ_cons]

theorem findLoop_sublist (pred : Task → Bool) (ts : List Task) (o l : Int) :
    (findLoop pred ts o l).Sublist (ts.filter pred) := by
  by_cases h : 0 ≤ o
  · rw [findLoop_eq _ _ _ _ h]; exact (takeLim_sublist _ _).trans (List.drop_sublist _ _)
  · rw [findLoop_neg _ _ _ _ (by omega)]; exact List.nil_sublist _

theorem isInfixOf_iff (n h : List Char) : isInfixOf n h = true ↔ ∃ a b, h = a ++ n ++ b := by
  induction h with
  | nil =>
    simp only [isInfixOf, List.isEmpty_iff]
    constructor
    · rintro rfl; exact ⟨[], [], rfl⟩
    · rintro ⟨a, b, h⟩
      have := congrArg List.length h
      simp at this
      exact List.eq_nil_of_length_eq_zero (by omega)
  | cons c cs ih =>
    simp only [isInfixOf, Bool.or_eq_true, List.isPrefixOf_iff_prefix, ih]
    constructor
    · rintro (⟨b, hb⟩ | ⟨a, b, hb⟩)
      · exact ⟨[], b, by simpa using hb.symm⟩
      · exact ⟨c :: a, b, by simp [hb]⟩
    · rintro ⟨a, b, hb⟩
      cases a with
      | nil => exact Or.inl ⟨b, by simpa using hb.symm⟩
      | cons a as =>
        simp only [List.cons_append, List.cons.injEq] at hb
        exact Or.inr ⟨as, b, hb.2⟩

theorem isInfixOf_iff_infix (n h : List Char) : isInfixOf n h = true ↔ n <:+: h :=
  (isInfixOf_iff n h).trans (exists_congr fun _ => exists_congr fun _ => eq_comm)

end Gk
