/-
The mutators (Gk/Mut.lean), for C18: the rejection loop of `randInt`, case equations of `decodeRandomize`, a closed
form of the repaired `mutateRandomize`, and `apply` on the list `[now, randomize]`.
-/
import Gk.Basic
import Gk.Query
import Gk.Mut
import Gk.Proofs.Task
namespace Gk.Mut

theorem normalize_le_self (t : Int) : normalize t ≤ t := Gk.normalize_le t

theorem normalize_mono {a b : Int} (h : a ≤ b) : normalize a ≤ normalize b := Gk.normalize_mono h

theorem normalize_normalize (t : Int) : normalize (normalize t) = normalize t := normalize_idem t

theorem normalize_gt (t : Int) : t - msNs < normalize t := by
  have := lt_normalize_add t; omega

theorem isNorm_normalize' (t : Int) : isNorm (normalize t) = true := isNorm_normalize t

theorem int_add_sub_cancel_left (a b : Int) : a + b - a = b := by omega

/-- Absolute bounds from the relative window facts (`s` = mutated time, `a` = original). -/
theorem window_bounds (a s mn mx : Int) (hle : mn ≤ mx) (h1 : mn = mx → s - a = mn)
    (h2 : mn < mx → mn ≤ s - a ∧ s - a < mx) : a + mn ≤ s ∧ s ≤ a + mx := by
  by_cases he : mn = mx
  · have := h1 he; omega
  · have := h2 (by omega); omega

theorem window_store_lt (a s mn mx : Int) (h2 : mn ≤ s - a ∧ s - a < mx) :
    normalize s < a + mx := by
  exact Int.lt_of_le_of_lt (normalize_le_self s) (by omega)

theorem parseDur_eq_none {s : String} {o : ParseOracle} :
    parseDur s o = none ↔ s ≠ "" ∧ o.dur = none ∧ o.int = none := by
  unfold parseDur
  by_cases hs : s = ""
  · simp [hs]
  · cases hd : o.dur <;> simp [hs]

theorem parseDur_empty (o : ParseOracle) : parseDur "" o = some 0 := by
  simp [parseDur]

theorem decode_none_none {m : SMap} {oMin oMax : ParseOracle}
    (hmx : SMap.lookup m labelMax = none) (hmn : SMap.lookup m labelMin = none) :
    decodeRandomize m oMin oMax = .ok none := by
  simp [decodeRandomize, hmx, hmn]

theorem decode_some_some {m : SMap} {oMin oMax : ParseOracle} {sx sn : String}
    (hmx : SMap.lookup m labelMax = some sx) (hmn : SMap.lookup m labelMin = some sn) :
    decodeRandomize m oMin oMax =
      match parseDur sx oMax with
      | none => .error ()
      | some maxV =>
        match parseDur sn oMin with
        | none => .error ()
        | some minV => .ok (some (.randomize minV maxV)) := by
  simp only [decodeRandomize, hmx, hmn]
  cases parseDur sx oMax <;> simp
  cases parseDur sn oMin <;> simp

theorem decode_some_none {m : SMap} {oMin oMax : ParseOracle} {sx : String}
    (hmx : SMap.lookup m labelMax = some sx) (hmn : SMap.lookup m labelMin = none) :
    decodeRandomize m oMin oMax =
      match parseDur sx oMax with
      | none => .error ()
      | some maxV => .ok (some (.randomize 0 maxV)) := by
  simp only [decodeRandomize, hmx, hmn]
  cases parseDur sx oMax <;> simp

theorem decode_none_some {m : SMap} {oMin oMax : ParseOracle} {sn : String}
    (hmx : SMap.lookup m labelMax = none) (hmn : SMap.lookup m labelMin = some sn) :
    decodeRandomize m oMin oMax =
      match parseDur sn oMin with
      | none => .error ()
      | some minV => .ok (some (.randomize minV 0)) := by
  simp only [decodeRandomize, hmx, hmn]
  cases parseDur sn oMin <;> simp

/-- "A present, non-empty label value is rejected by both parsers." -/
def rejected (m : SMap) (lbl : String) (o : ParseOracle) : Prop :=
  ∃ v, SMap.lookup m lbl = some v ∧ v ≠ "" ∧ o.dur = none ∧ o.int = none

theorem rejected_iff {m : SMap} {lbl : String} {o : ParseOracle} :
    rejected m lbl o ↔ ∃ v, SMap.lookup m lbl = some v ∧ parseDur v o = none :=
  exists_congr fun _ => and_congr_right fun _ => parseDur_eq_none.symm

theorem decode_error_iff (m : SMap) (oMin oMax : ParseOracle) :
    decodeRandomize m oMin oMax = .error () ↔
      rejected m labelMin oMin ∨ rejected m labelMax oMax := by
  simp only [rejected_iff]
  cases hmx : SMap.lookup m labelMax with
  | none =>
    cases hmn : SMap.lookup m labelMin with
    | none => simp [decode_none_none hmx hmn]
    | some sn =>
      rw [decode_none_some hmx hmn]
      cases hp : parseDur sn oMin <;> simp [hp]
  | some sx =>
    cases hmn : SMap.lookup m labelMin with
    | none =>
      rw [decode_some_none hmx hmn]
      cases hp : parseDur sx oMax <;> simp [hp]
    | some sn =>
      rw [decode_some_some hmx hmn]
      cases hp : parseDur sx oMax <;> cases hq : parseDur sn oMin <;> simp [hp, hq]

/-- Mask the top byte of a draw to `b` bits. -/
def maskTop (b : Nat) : List Nat → List Nat
  | [] => []
  | x :: xs => (x % (2 ^ b)) :: xs

theorem randLoop_zero (max k b : Nat) (bytes : List Nat) : randLoop max k b 0 bytes = .eof := rfl

theorem randLoop_succ (max k b fuel : Nat) (bytes : List Nat) :
    randLoop max k b (fuel + 1) bytes =
      if bytes.length < k then .eof
      else if bytesToNat (maskTop b (bytes.take k)) < max then
        .val (bytesToNat (maskTop b (bytes.take k))) (bytes.drop k)
      else randLoop max k b fuel (bytes.drop k) := rfl

theorem randLoop_val {max k b : Nat} : ∀ (fuel : Nat) (bytes : List Nat) {n : Nat} {rest : List Nat},
    randLoop max k b fuel bytes = .val n rest → n < max ∧ rest <:+ bytes
  | 0, _, _, _, h => by simp [randLoop_zero] at h
  | fuel + 1, bytes, n, rest, h => by
    rw [randLoop_succ] at h
    split at h
    · cases h
    · split at h
      · rename_i hlt
        injection h with h1 h2
        subst h1 h2
        exact ⟨hlt, List.drop_suffix _ _⟩
      · have ih := randLoop_val fuel _ h
        exact ⟨ih.1, ih.2.trans (List.drop_suffix _ _)⟩

theorem randLoop_ne_panic {max k b : Nat} : ∀ (fuel : Nat) (bytes : List Nat),
    randLoop max k b fuel bytes ≠ .panic
  | 0, _ => by simp [randLoop_zero]
  | fuel + 1, bytes => by
    rw [randLoop_succ]
    split
    · simp
    · split
      · simp
      · exact randLoop_ne_panic fuel _

theorem randLoop_val_length {max k b : Nat} : ∀ (fuel : Nat) (bytes : List Nat) {n : Nat}
    {rest : List Nat}, randLoop max k b fuel bytes = .val n rest →
      ∃ j, 0 < j ∧ rest.length + j * k = bytes.length
  | 0, _, _, _, h => by simp [randLoop_zero] at h
  | fuel + 1, bytes, n, rest, h => by
    rw [randLoop_succ] at h
    split at h
    · cases h
    · rename_i hlen
      split at h
      · injection h with h1 h2
        subst h1 h2
        refine ⟨1, by omega, ?_⟩
        rw [List.length_drop]; omega
      · obtain ⟨j, hj, hl⟩ := randLoop_val_length fuel _ h
        refine ⟨j + 1, by omega, ?_⟩
        rw [List.length_drop] at hl
        rw [Nat.add_mul]; omega

theorem randLoop_eof_of_short {max k b fuel : Nat} {bytes : List Nat} (h : bytes.length < k) :
    randLoop max k b (fuel + 1) bytes = .eof := by
  rw [randLoop_succ]; simp [h]

theorem randInt_panic_iff (max : Int) (bytes : List Nat) : randInt max bytes = .panic ↔ max ≤ 0 := by
  unfold randInt
  by_cases h : max ≤ 0
  · simp [h]
  · simp only [h, if_false, iff_false]
    split
    · simp
    · exact randLoop_ne_panic _ _

theorem randInt_val {max : Int} {bytes : List Nat} {n : Nat} {rest : List Nat}
    (h : randInt max bytes = .val n rest) : 0 < max ∧ (n : Int) < max ∧ rest <:+ bytes := by
  unfold randInt at h
  by_cases hm : max ≤ 0
  · simp [hm] at h
  · simp only [hm, if_false] at h
    split at h
    · injection h with h1 h2
      subst h1 h2
      exact ⟨by omega, by omega, List.suffix_refl _⟩
    · have := randLoop_val _ _ h
      exact ⟨by omega, by omega, this.2⟩

theorem randInt_one (bytes : List Nat) : randInt 1 bytes = .val 0 bytes := by
  simp [randInt, bitLen]

theorem mutateRandomize_fixed (min max : Int) (p : Param) (bytes : List Nat) :
    mutateRandomize true min max p bytes =
      if min = max then .ok { p with scheduledAt := some (p.scheduledAt.getD 0 + min) } bytes
      else match randInt ((max - min).natAbs : Int) bytes with
        | .val n rest =>
          let rv : Int := if max < min then -(n : Int) else (n : Int)
          .ok { p with scheduledAt := some (p.scheduledAt.getD 0 + (min + rv)) } rest
        | _ => .panic := by
  unfold mutateRandomize
  simp only [if_true]
  by_cases he : min = max
  · subst he; simp
  · by_cases hn : max - min < 0
    · have h1 : (-(max - min) == 0) = false := by
        simp only [beq_eq_false_iff_ne, ne_eq]; omega
      have h2 : -(max - min) = ((max - min).natAbs : Int) := by omega
      have h3 : max < min := by omega
      simp only [hn, he, if_true, if_false, h1, Bool.false_eq_true, h3]
      rw [h2]
      rfl
    · have h1 : ((max - min) == 0) = false := by
        simp only [beq_eq_false_iff_ne, ne_eq]; omega
      have h2 : max - min = ((max - min).natAbs : Int) := by omega
      have h3 : ¬ max < min := by omega
      simp only [hn, he, if_false, h1, Bool.false_eq_true, h3]
      rw [← h2]
      rfl

theorem mutate_fixed_ok {min max : Int} {p p' : Param} {bytes rest : List Nat}
    (h : mutateRandomize true min max p bytes = .ok p' rest) :
    ∃ off : Int, p' = { p with scheduledAt := some (p.scheduledAt.getD 0 + off) } ∧ rest <:+ bytes ∧
      (min = max → off = min) ∧ (min < max → min ≤ off ∧ off < max) ∧
      (max < min → max < off ∧ off ≤ min) := by
  rw [mutateRandomize_fixed] at h
  by_cases he : min = max
  · simp only [he, if_true] at h
    injection h with h1 h2
    subst h1 h2
    exact ⟨max, rfl, List.suffix_refl _, fun _ => he.symm, by omega, by omega⟩
  · simp only [he, if_false] at h
    cases hr : randInt ((max - min).natAbs : Int) bytes with
    | val n rest' =>
      rw [hr] at h
      simp only at h
      injection h with h1 h2
      subst h1 h2
      have hv := randInt_val hr
      refine ⟨min + if max < min then -(n : Int) else (n : Int), rfl, hv.2.2, ?_, ?_, ?_⟩
      · intro h; exact absurd h he
      · intro hlt; have := hv.2.1; split <;> omega
      · intro hlt; have := hv.2.1; split <;> omega
    | panic => rw [hr] at h; simp at h
    | eof => rw [hr] at h; simp at h

theorem mutate_fixed_panic_iff (min max : Int) (p : Param) (bytes : List Nat) :
    mutateRandomize true min max p bytes = .panic ↔
      min ≠ max ∧ randInt ((max - min).natAbs : Int) bytes = .eof := by
  rw [mutateRandomize_fixed]
  by_cases he : min = max
  · simp [he]
  · simp only [he, if_false, ne_eq, not_false_eq_true, true_and]
    cases hr : randInt ((max - min).natAbs : Int) bytes with
    | val n rest' => simp
    | panic =>
      have := (randInt_panic_iff _ _).1 hr
      omega
    | eof => simp

theorem apply_now_randomize (fixed : Bool) (mn mx : Int) (now : Time) (p : Param) (bytes : List Nat) :
    apply fixed now [.now, .randomize mn mx] p bytes =
      mutateRandomize fixed mn mx (mutateNow now p) bytes := by
  simp only [apply]
  cases mutateRandomize fixed mn mx (mutateNow now p) bytes <;> rfl

end Gk.Mut
