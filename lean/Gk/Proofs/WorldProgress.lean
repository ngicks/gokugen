/-
C05 — the global, measure-based progress theorem of the fair fault-free driver
(`Live.driveRound`, `Live.rounds`, `Live.autoAct`).

The potential `Psi` is followed per move (`AutoStep.dec`: one case for each transition of `World.Sched` that a
fault-free environment can take, and one for each thing it does at `select`) instead of per round type: this
covers every round type at once (announce with fresh / stale cache, with or without the restart prologue, failed
announce, dispatch, refused dispatch, result / completion / advance rounds, the three `Retry` rounds), and
`drive_dec_gen` glues the moves along a round with `rank`.
-/
import Gk.Proofs.WorldAuto
namespace Gk.Live
open Gk

def isSched (t : Task) : Bool := t.state == .scheduled

def cntSched (ts : List Task) : Nat := ts.countP isSched

/-- number of scheduled tasks (due or not) in the repository -/
def nSched (w : World) : Nat := cntSched w.obs.repo.tasks

theorem cntSched_pos {ts : List Task} : 0 < cntSched ts ↔ ∃ t ∈ ts, t.state = .scheduled := by
  unfold cntSched
  rw [List.countP_pos_iff]
  simp [isSched]

theorem cntSched_zero {ts : List Task} : cntSched ts = 0 ↔ ∀ t ∈ ts, t.state ≠ .scheduled := by
  unfold cntSched
  rw [List.countP_eq_zero]
  simp [isSched]

theorem cntSched_map_le (ts : List Task) (g : Task → Task)
    (hg : ∀ t ∈ ts, (g t).state = .scheduled → t.state = .scheduled) :
    cntSched (ts.map g) ≤ cntSched ts := by
  unfold cntSched
  rw [List.countP_map]
  apply List.countP_mono_left
  intro x hx h
  simp only [Function.comp, isSched, beq_iff_eq] at h ⊢
  exact hg x hx h

theorem cntSched_map_lt (ts : List Task) (g : Task → Task)
    (hg : ∀ t ∈ ts, (g t).state = .scheduled → t.state = .scheduled)
    (hu : ∃ u ∈ ts, u.state = .scheduled ∧ (g u).state ≠ .scheduled) :
    cntSched (ts.map g) < cntSched ts := by
  obtain ⟨u, hu, hs, hn⟩ := hu
  obtain ⟨l1, l2, rfl⟩ := List.append_of_mem hu
  have h1 := cntSched_map_le l1 g fun t ht => hg t (List.mem_append_left _ ht)
  have h2 := cntSched_map_le l2 g fun t ht => hg t (List.mem_append_right _ (List.mem_cons_of_mem _ ht))
  have h3 : isSched (g u) = false := by simpa [isSched] using hn
  have h4 : isSched u = true := by simpa [isSched] using hs
  unfold cntSched at h1 h2 ⊢
  simp only [List.map_append, List.map_cons, List.countP_append, List.countP_cons, h3, h4, Bool.false_eq_true,
    ↓reduceIte]
  omega

theorem _root_.Gk.Edit.cnt_le {now : Time} {op : Op} {id : String} {want : St} {f : Task → Task}
    (he : Edit now op id want f) (fl : Flags) (r : Repo) (hF : ∀ t, (f t).state ≠ .scheduled) :
    cntSched (Repo.step fl r now op).1.tasks ≤ cntSched r.tasks := by
  obtain ⟨g, h1, h2, _⟩ := he.map fl r
  rw [h1]
  refine cntSched_map_le _ g fun t ht hs => ?_
  rcases h2 t ht with e | ⟨_, e⟩
  · rwa [e] at hs
  · exact absurd (e ▸ hs) (hF t)

theorem _root_.Gk.Edit.cnt_lt {now : Time} {op : Op} {id : String} {f : Task → Task}
    (he : Edit now op id .scheduled f) (fl : Flags) {r : Repo} (hF : ∀ t, (f t).state ≠ .scheduled) {u : Task}
    (hl : r.lookup id = some u) (hs : u.state = .scheduled) :
    cntSched (Repo.step fl r now op).1.tasks < cntSched r.tasks := by
  obtain ⟨g, h1, h2, h3⟩ := he.map fl r
  rw [h1]
  refine cntSched_map_lt _ g (fun t ht hs => ?_) ⟨u, (Repo.lookup_some hl).1, hs, h3 u hl hs ▸ hF u⟩
  rcases h2 t ht with e | ⟨_, e⟩
  · rwa [e] at hs
  · exact absurd (e ▸ hs) (hF t)

theorem dispatch_cnt_lt (o : Obs) (id : String) (f : Option Err) {u : Task}
    (hl : o.repo.lookup id = some u) (hs : u.state = .scheduled) :
    cntSched (o.step (.dispatch id) f).1.repo.tasks < cntSched o.repo.tasks := by
  rw [dispatch_step_repo_core]
  exact (Edit.dispatch id).cnt_lt _ (fun _ => nofun) hl hs

theorem done_keeps_sched {r : Repo} {now0 : Time} (hok : TasksOk r.tasks now0) (now : Time)
    (id : String) (e : Option String) {u : Task} (hu : u ∈ r.tasks) (hs : u.state = .scheduled) :
    u ∈ (Repo.step {} r now (.done id e)).1.tasks := by
  by_cases hid : u.id = id
  · have hg : Ent.guard r id .dispatched = false :=
      Ent.guard_eq_false.mpr fun t hl hd => by rw [← hok.lookup hl hu hid, hs] at hd; cases hd
    rw [(Edit.done id e).step_fst, hg]
    exact hu
  · exact (Edit.done id e).keeps {} hu hid

def schedId (r : Repo) (id : String) : Bool :=
  match r.lookup id with
  | some u => u.state == .scheduled
  | none => false

theorem schedId_iff {r : Repo} {id : String} :
    schedId r id = true ↔ ∃ u, r.lookup id = some u ∧ u.state = .scheduled :=
  Ent.guard_eq_true

/-- "the cache is fresh" (inside `select`, fire not yet consumed). With a scheduled head: the timer
is set, the cached time is the head's time, a pending fire is justified (the head is due) and an
armed deadline is not earlier than the head's time — so the timer branch, when it is taken, finds the
head due and its time equal to the cached one: the announce cannot fail. With nothing scheduled:
nothing is cached, nothing armed, nothing pending — the timer branch will not be taken at all. -/
def fresh (o : Obs) : Bool :=
  match o.hook.cached, o.repo.getNext with
  | some c0, some hd =>
    o.hook.timerReset && c0.scheduledAt == hd.scheduledAt &&
    (!o.clock.pending || decide (hd.scheduledAt ≤ o.clock.now)) &&
    (match o.clock.armed with
      | some d => decide (hd.scheduledAt ≤ d)
      | none => true)
  | none, none => o.clock.armed.isNone && !o.clock.pending
  | _, _ => false

/-- the same after the fire has been consumed: the timer is set, the cached time is the head's time,
the head is due -/
def good (o : Obs) : Bool :=
  o.hook.timerReset &&
  match o.hook.cached, o.repo.getNext with
  | some c0, some hd => c0.scheduledAt == hd.scheduledAt && decide (hd.scheduledAt ≤ o.clock.now)
  | _, _ => false

/-- phase of a prologue state: with an announced task the phase is that of the dispatch (0 if the
task is still scheduled, 11 if not), else `k` -/
def pro (w : World) (k : Nat) : Nat :=
  match w.lastTask with
  | some t => if schedId w.obs.repo t.id then 0 else 11
  | none => k

/-- The phase, at every program counter. Between two calls (non-retryable state):
announced and still scheduled 0 < restart pending 1 < nothing announced 2 (inside `select`: fresh
cache 1 < unfresh cache 2) < `MarkAsDone` under way 3 < a dispatch that may be refused or may start a
task that is not scheduled 11 < `Retry` of a timer error 12. -/
def lvl (w : World) : Nat :=
  match w.pc with
  | .idle =>
    if retryable w.ret then
      (match w.ret with
        | .timerUpdateError _ => 12
        | .dispatchErr _ _ => 11
        | _ => 3)
    else pro w (if w.getNextErr || w.obs.hook.lastErr.isSome then 1 else 2)
  | .s_lastErr0 => pro w (if w.obs.hook.lastErr.isSome then 1 else 2)
  | .s_stop | .s_start => pro w 1
  | .s_lastErr1 => pro w (if fresh w.obs then 1 else 2)
  | .s_select => if fresh w.obs then 1 else 2
  | .s_getNext | .s_nextSched _ => if good w.obs then 1 else 2
  | .s_markDone _ _ | .r_markDone _ _ => 3
  | .d_wait t false | .d_mark t _ => if schedId w.obs.repo t.id then 0 else 11
  | .d_wait _ true | .d_get _ | .r_getById _ => 11
  | .r_stop | .r_start | .r_lastErr => 12

/-- The potential: `12·#scheduled + 8·#running + 4·#queued completions + phase`. -/
def Psi (w : World) : Nat :=
  12 * nSched w + 8 * w.running.length + 4 * w.completed.length + lvl w

theorem pro_le (w : World) {k : Nat} (hk : k ≤ 11) : pro w k ≤ 11 := by
  unfold pro; repeat' split
  all_goals omega

theorem lvl_le (w : World) : lvl w ≤ 12 := by
  unfold lvl
  repeat' split
  all_goals first
    | omega
    | exact Nat.le_trans (pro_le w (by omega)) (by omega)

theorem lvl_d_wait_le (w : World) (t : Task) (b : Bool) :
    lvl { w with pc := .d_wait t b } ≤ 11 := by
  cases b
  · simp only [lvl]; split <;> omega
  · simp [lvl]

/-- the explicit bound: the potential with the phase replaced by its maximum -/
def bound (w : World) : Nat :=
  12 * nSched w + 8 * w.running.length + 4 * w.completed.length + 12

theorem Psi_le_bound (w : World) : Psi w ≤ bound w := by
  have := lvl_le w
  unfold Psi bound; omega

/-- inside a call of the fair driver the context is not cancelled -/
def CtxOk (w : World) : Prop := w.pc ≠ .idle → w.ctxDone = false

theorem CtxOk.not_done {w : World} {p : Pc} (h : CtxOk w) (hpc : w.pc = p) (hp : p ≠ .idle) (hc : w.ctxDone = true) :
    False := by
  rw [h (hpc ▸ hp)] at hc
  cases hc

theorem CtxOk.of_idle {w : World} (hpc : w.pc = .idle) : CtxOk w := fun h => absurd hpc h

/-- after `StartTimer()` without a hook fault there is no timer error -/
def LErrOk (w : World) : Prop :=
  (w.pc = .s_lastErr1 ∨ w.pc = .r_lastErr) → w.obs.hook.lastErr = none

theorem LErrOk.of_idle {w : World} (hpc : w.pc = .idle) : LErrOk w := by rw [LErrOk, hpc]; nofun

/-- the task read by `GetNext` is still the head when `NextScheduled` is consulted -/
def HeadOk (w : World) : Prop := ∀ t, w.pc = .s_nextSched t → w.obs.repo.getNext = some t

theorem startTimer_none_lastErr (o : Obs) : (o.startTimer none).hook.lastErr = none := by
  unfold Obs.startTimer Obs.update
  simp only [Bool.not_true, Bool.false_eq_true, ↓reduceIte]
  split <;> rfl

theorem CtxOk.auto_step {w w' : World} (h : CtxOk w) (ha : AutoStep w w') : CtxOk w' := by
  cases ha with
  | sched hpc hf hen _ hs =>
    cases hs with
    | stuck h' => exact absurd hen h'
    | cancelCtx => exact hf.elim
    | stepRestart | step | retryTimer | retryDispatch | retryDone | retryZero => exact fun _ => rfl
    | _ =>
      first
        | exact fun h' => absurd rfl h'
        | exact fun _ => h (by simp only [*, ne_eq, reduceCtorEq, not_false_eq_true])
  | complete | advance => exact h
  | timer hpc | result hpc => exact fun _ => h (by simp only [hpc, ne_eq, reduceCtorEq, not_false_eq_true])
  | cancelled | blocked => exact fun h' => absurd rfl h'

theorem CtxOk.auto {w : World} (h : CtxOk w) : CtxOk (w.step (autoAct w)) := h.auto_step (auto_spec w)

theorem AutoStep.lErrOk {w w' : World} (ha : AutoStep w w') : LErrOk w' := by
  cases ha with
  | sched hpc hf hen _ hs =>
    cases hs with
    | stuck h' => exact absurd hen h'
    | cancelCtx => exact hf.elim
    | start | rStart => cases hf; exact fun _ => startTimer_none_lastErr _
    | _ => exact fun h => by rcases h with h | h <;> cases h
  | complete hpc | advance hpc => exact fun h => by rcases h with h | h <;> cases hpc.symm.trans h
  | _ => exact fun h => by rcases h with h | h <;> cases h

theorem LErrOk.auto (w : World) : LErrOk (w.step (autoAct w)) := (auto_spec w).lErrOk

theorem AutoStep.headOk {w w' : World} (ha : AutoStep w w') : HeadOk w' := by
  cases ha with
  | sched hpc hf hen _ hs =>
    cases hs with
    | stuck h' => exact absurd hen h'
    | cancelCtx => exact hf.elim
    | getNextSome _ _ hn => exact fun t h => by cases h; exact hn
    | _ => exact fun t h => by cases h
  | complete hpc | advance hpc => exact fun t h => by cases hpc.symm.trans h
  | _ => exact fun t h => by cases h

/-- what every move of a fault-free round maintains -/
structure PQ (w : World) : Prop where
  round : RoundInv w
  ctx : CtxOk w
  lerr : LErrOk w
  head : HeadOk w

theorem PQ.auto {w : World} (h : PQ w) : PQ (w.step (autoAct w)) :=
  ⟨h.round.auto, h.ctx.auto, LErrOk.auto w, (auto_spec w).headOk⟩

theorem PQ.of_idle {w : World} (hL : LiveInv w) (hS : StartedOk w) (hpc : w.pc = .idle) : PQ w :=
  ⟨.of_idle hL hS hpc, .of_idle hpc, .of_idle hpc, fun t h => by rw [hpc] at h; cases h⟩

theorem PQ.drive {w : World} (h : PQ w) (n : Nat) : PQ (drive n w) := drive_inv (fun _ h => h.auto) n w h

theorem nSched_sched {w w' : World} {a : SAct} (hs : w.Sched a w') : nSched w' ≤ nSched w := by
  unfold nSched
  rcases hs.repo_cases with e | ⟨id, err, e⟩ | ⟨id, e⟩ <;> rw [e]
  · exact Nat.le_refl _
  · exact (Edit.done id err).cnt_le _ _ fun _ => by cases err <;> exact nofun
  · exact (Edit.dispatch id).cnt_le _ _ fun _ => nofun

theorem AutoStep.nSched_le {w w' : World} (ha : AutoStep w w') : nSched w' ≤ nSched w := by
  cases ha with
  | sched _ _ _ _ hs => exact nSched_sched hs
  | _ => exact Nat.le_refl _

theorem sticky_none' {w : World} (hL : LiveInv w) (hq : quietRet w.ret = false) :
    w.lastTask = none := by
  have hs := hL.sticky
  unfold StickyOk at hs
  cases hl : w.lastTask with
  | some t =>
    have := (hs.1 (by simp [hl])).2
    rw [hq] at this; cases this
  | none => rfl

theorem getNext_some_of_pos {w : World} (h : 0 < nSched w) : ∃ hd, w.obs.repo.getNext = some hd := by
  obtain ⟨t, ht, hs⟩ := cntSched_pos.1 h
  exact Repo.getNext_isSome_of_scheduled ht hs

theorem fresh_startTimer {o : Obs} (hclk : o.clock.armed.isSome = true → o.clock.pending = false) :
    fresh (o.startTimer none) = true := by
  cases hn : o.repo.getNext with
  | none =>
    unfold Obs.startTimer Obs.update
    simp [Clock.stopAndDrain_eq hclk, fresh, hn]
  | some hd =>
    unfold Obs.startTimer Obs.update
    simp only [Bool.not_true, Bool.false_eq_true, ↓reduceIte, hn, Clock.stopAndDrain_eq hclk, Clock.reset_quiet]
    by_cases h : hd.scheduledAt ≤ o.clock.now <;> simp [fresh, hn, h]
theorem good_of_fresh {o : Obs} (hp : o.clock.pending = true) (hf : fresh o = true) :
    good { o with clock := { o.clock with pending := false } } = true := by
  unfold fresh at hf
  unfold good
  cases hc : o.hook.cached with
  | none =>
    cases hn : o.repo.getNext with
    | none => simp [hc, hn, hp] at hf
    | some hd => simp [hc, hn] at hf
  | some c0 =>
    cases hn : o.repo.getNext with
    | none => simp [hc, hn] at hf
    | some hd =>
      simp only [hc, hn, hp, Bool.not_true, Bool.false_or, Bool.and_eq_true, beq_iff_eq,
        decide_eq_true_eq] at hf ⊢
      obtain ⟨⟨⟨h1, h2⟩, h3⟩, _⟩ := hf
      exact ⟨h1, h2, h3⟩

theorem fresh_advance {o : Obs} {d : Time} (ha : o.clock.armed = some d)
    (hf : fresh o = true) : fresh { o with clock := o.clock.advance d } = true := by
  unfold fresh at hf ⊢
  cases hc : o.hook.cached with
  | none =>
    cases hn : o.repo.getNext with
    | none => simp [hc, hn, ha] at hf
    | some hd => simp [hc, hn] at hf
  | some c0 =>
    cases hn : o.repo.getNext with
    | none => simp [hc, hn] at hf
    | some hd =>
      simp only [hc, hn, ha, Bool.and_eq_true, beq_iff_eq, decide_eq_true_eq] at hf ⊢
      obtain ⟨⟨⟨h1, h2⟩, _⟩, h4⟩ := hf
      rw [Clock.advance_armed ha]
      refine ⟨⟨⟨h1, h2⟩, ?_⟩, rfl⟩
      simp only [Bool.not_true, Bool.false_or, decide_eq_true_eq]
      split <;> tomega

theorem filter_head_le {α : Type} (id : String) (x : α) (xs : List (String × α)) :
    (((id, x) :: xs).filter (fun p => p.1 != id)).length ≤ xs.length := by
  simp only [List.filter_cons, bne_self_eq_false, Bool.false_eq_true, ↓reduceIte]
  exact List.length_filter_le _ _

def Blocks (w : World) : Prop :=
  w.pc = .s_select ∧ w.obs.clock.pending = false ∧ w.completed = [] ∧ w.running = [] ∧
    w.obs.clock.armed = none
theorem lvl_idle_none {w : World} (hpc : w.pc = .idle) (hq : retryable w.ret = false)
    (hl : w.lastTask = none) : lvl w ≤ 2 := by
  simp only [lvl, hpc, hq, pro, hl, Bool.false_eq_true, ↓reduceIte]
  split <;> omega

theorem lvl_idle_restart {w : World} (hpc : w.pc = .idle) (hq : retryable w.ret = false)
    (hl : w.lastTask = none) (hg : w.getNextErr = true) : lvl w = 1 := by
  simp [lvl, hpc, hq, pro, hl, hg]

theorem lvl_idle_announced {w : World} {t : Task} (hpc : w.pc = .idle)
    (hq : retryable w.ret = false) (hl : w.lastTask = some t)
    (hs : schedId w.obs.repo t.id = true) : lvl w = 0 := by
  simp [lvl, hpc, hq, pro, hl, hs]

theorem retryable_done {r : Repo} {now : Time} {id0 id : String} {o : Outcome} {es : Option String} :
    retryable (.taskDone id o
      (match (Repo.step {} r now (.done id0 es)).2 with
        | .err e => some e
        | _ => none)) = false := by
  split
  · next e h => simp [retryable, (Edit.done id0 es).err_def h]
  · rfl

theorem psi_lt_of {w w' : World} (hn : nSched w' ≤ nSched w)
    (hr : w'.running.length ≤ w.running.length) (hc : w'.completed.length ≤ w.completed.length)
    (hl : lvl w' < lvl w) : Psi w' < Psi w := by
  unfold Psi; omega

theorem psi_le_of {w w' : World} (hn : nSched w' ≤ nSched w)
    (hr : w'.running.length ≤ w.running.length) (hc : w'.completed.length ≤ w.completed.length)
    (hl : lvl w' ≤ lvl w) : Psi w' ≤ Psi w := by
  unfold Psi; omega

/-- a queued completion is received, into a phase ≤ 3 -/
theorem psi_lt_consume {w w' : World} (hn : nSched w' ≤ nSched w)
    (hr : w'.running.length ≤ w.running.length) (hc : w'.completed.length < w.completed.length)
    (hl : lvl w' ≤ 3) : Psi w' < Psi w := by
  unfold Psi; omega

def Dec (w w' : World) : Prop := Psi w' < Psi w ∨ (w'.pc ≠ .idle ∧ Psi w' ≤ Psi w)

/-- the call returns, nothing announced, to a state that asks for no `Retry`, from a phase ≥ 3 -/
theorem Dec.final {w w' : World} (hpc' : w'.pc = .idle) (hq : retryable w'.ret = false)
    (hl : w'.lastTask = none) (hn : nSched w' ≤ nSched w)
    (hr : w'.running.length ≤ w.running.length) (hc : w'.completed.length ≤ w.completed.length)
    (h3 : 3 ≤ lvl w) : Dec w w' := by
  have := lvl_idle_none hpc' hq hl
  unfold Dec Psi
  omega

/-- Every move of the fair fault-free driver: the potential decreases, or the call goes on and the potential does
not increase — or `select` is blocked and the call ends with `AwaitingNext`. -/
theorem AutoStep.dec {w w' : World} (ha : AutoStep w w') (hQ : PQ w) :
    Dec w w' ∨ (Blocks w ∧ w' = w.finish .awaitingNext) := by
  have hL := hQ.round.1
  have hfix := hL.fix
  cases ha with
  | blocked hpc hp hc hr ha => exact .inr ⟨⟨hpc, hp, hc, hr, ha⟩, rfl⟩
  | sched hpc hf hen hd hs =>
    left
    have hlt := @StickyOk.lastTask_none w hL.sticky
    have hcnt := nSched_sched hs
    cases hs with
    | stuck h' => exact absurd hen h'
    | cancelCtx | coreCtx | core => exact hf.elim
    | getNextFault _ hf' | getFault _ hf' | refetchFault _ hf' => cases hf; cases hf'
    | doneBefore _ hf' | redoneBefore _ hf' => cases hf; cases hf'
    | markBefore _ _ hf' => cases hf.1; cases hf'
    | noWorker => cases hf
    | doneCtx hpc' _ hc | markCtx _ hpc' _ hc | getCtx hpc' _ hc | refetchCtx hpc' _ hc | redoneCtx hpc' _ hc =>
      exact (hQ.ctx.not_done hpc' nofun hc).elim
    | selCtx hpc' | selTimer hpc' | selCancelled hpc' | selResult hpc' => exact absurd hpc' hpc
    -- the call goes on and only the phase moves, not upwards
    | retryTimer hpc' hr | lastErr0Err hpc' he | lastErr0Task hpc' _ hl | lastErr1Task hpc' _ hl
    | lastErr1Select hpc' _ hl | getNextSome hpc' | waitRetry hpc' | waitMark hpc' | rStop hpc' | rStart _ hpc' =>
      exact .inr ⟨nofun, by simp [Psi, nSched, lvl, pro, retryable, *]⟩
    | retryDispatch hpc' hr | retryDone hpc' hr =>
      have hq := (hd hpc').2 rfl
      simp only [hr] at hq
      exact .inr ⟨nofun, by simp [Psi, nSched, lvl, hpc', hr, hq]⟩
    | retryZero hpc' h1 h2 h3 =>
      have hq := (hd hpc').2 rfl
      revert hq
      cases hr : w.ret <;> simp [retryable]
      · exact absurd hr (h1 _)
      · exact absurd hr (h2 _ _)
      · exact absurd hr (h3 _ _ _)
    | stepRestart hpc' hg | step hpc' hg =>
      have hq : retryable w.ret = false := Bool.eq_false_iff.2 fun h => nomatch (hd hpc').1 h
      exact .inr ⟨nofun, by simp [Psi, nSched, lvl, hpc', hq, hg, pro]⟩
    | lastErr0Select hpc' he hl =>
      refine .inr ⟨nofun, ?_⟩
      simp only [Psi, nSched, lvl, hpc', he, pro, hl]
      split <;> simp
    | lastErr1Err hpc' he => rw [hQ.lerr (.inl hpc')] at he; cases he
    | rLastErrErr hpc' he => rw [hQ.lerr (.inr hpc')] at he; cases he
    | stop hpc' =>
      refine .inr ⟨nofun, ?_⟩
      simp only [Psi, nSched, lvl, hpc', pro, Obs.stopTimer_repo]
      exact Nat.le_refl _
    | start _ hpc' =>
      cases hf
      refine .inr ⟨nofun, ?_⟩
      have hf := fresh_startTimer (o := w.obs) hL.loose.clk
      simp only [Psi, nSched, lvl, hpc', pro, hf, startTimer_repo, ↓reduceIte]
      exact Nat.le_refl _
    | getNextNone hpc' _ hn =>
      -- nothing is scheduled: `ErrRepositoryExhausted`, a restart is remembered
      refine .inl (psi_lt_of (Nat.le_refl _) (Nat.le_refl _) (Nat.le_refl _)
        (Nat.lt_of_le_of_lt (Nat.le_of_eq (lvl_idle_restart rfl rfl rfl rfl)) ?_))
      simp [lvl, hpc', good, hn]
    | @changed t hpc' hc =>
      -- `ErrScheduleStoppedOrChanged`: the cache was not fresh
      have hn := hQ.head t hpc'
      have hng : good w.obs = false := Bool.eq_false_iff.2 fun hg => by
        cases hca : w.obs.hook.cached <;> simp [good, hca, hn] at hg
        simp [Obs.nextScheduled, hca, hg, hfix] at hc
      refine .inl (psi_lt_of (Nat.le_refl _) (Nat.le_refl _) (Nat.le_refl _)
        (Nat.lt_of_le_of_lt (Nat.le_of_eq (lvl_idle_restart rfl rfl (hlt hpc' rfl) (by simp [hfix]))) ?_))
      simp [lvl, hpc', hng]
    | @announce t hpc' hc =>
      have hn := hQ.head t hpc'
      refine .inl (psi_lt_of (Nat.le_refl _) (Nat.le_refl _) (Nat.le_refl _)
        (Nat.lt_of_le_of_lt (Nat.le_of_eq (lvl_idle_announced (t := t) rfl rfl rfl
          (by simp [schedId, head_lookup hL.tasksOk hn, Repo.getNext_scheduled hn]))) ?_))
      simp only [lvl, hpc']
      split <;> omega
    | done hpc' | redoneErr hpc' =>
      cases hf
      exact .final rfl retryable_done (hlt hpc' rfl) hcnt (Nat.le_refl _)
        (Nat.le_refl _) (by simp [lvl, hpc'])
    | redone hpc' =>
      exact .final rfl rfl (hlt hpc' rfl) hcnt (Nat.le_refl _) (Nat.le_refl _)
        (by simp [lvl, hpc'])
    | @markErr t retry f hf' e hpc' _ _ he =>
      -- refused: the announced task was not scheduled any more
      obtain ⟨rfl, rfl⟩ := hf
      have hout := World.faultErr_none_some he
      have hns : schedId w.obs.repo t.id = false := Bool.eq_false_iff.2 fun hsi => by
        obtain ⟨u, hu, hs⟩ := schedId_iff.1 hsi
        have := (dispatch_step_scheduled w.obs t.id none hu hs).1
        rw [hout] at this; cases this
      exact .final rfl (by simp [retryable, dispatch_err_def w.obs t.id none hout]) (hlt hpc' rfl)
        hcnt (Nat.le_refl _) (Nat.le_refl _) (by simp [lvl, hpc', hns])
    | @markOk t retry f hf' hpc' _ _ he =>
      obtain ⟨rfl, rfl⟩ := hf
      refine .inr ⟨nofun, ?_⟩
      cases hsi : schedId w.obs.repo t.id with
      | false => exact psi_le_of hcnt (Nat.le_refl _) (Nat.le_refl _) (by simp [lvl, hpc', hsi])
      | true =>
        obtain ⟨u, hu, hs⟩ := schedId_iff.1 hsi
        have hlt' := dispatch_cnt_lt w.obs t.id none hu hs
        simp only [Psi, nSched, lvl, hpc', hsi, ↓reduceIte]
        omega
    | getNone hpc' =>
      exact .final rfl rfl (hlt hpc' rfl) (Nat.le_refl _) (Nat.le_refl _) (Nat.le_refl _) (by simp [lvl, hpc'])
    | @run t cur f hpc' _ _ hl =>
      left
      have h2 : lvl { w with running := w.running ++ [(t.id, cur)], log := w.log ++ [({ id := t.id, at_ := w.obs.clock.now, task := cur } : RunEntry)], ret := .dispatched t.id, pc := .idle } ≤ 2 :=
        lvl_idle_none rfl rfl (hlt hpc' rfl)
      have h11 : lvl w = 11 := by simp [lvl, hpc']
      unfold Psi
      rw [h11]
      simp only [nSched, List.length_append, List.length_cons, List.length_nil] at h2 ⊢
      omega
    | rLastErrOk hpc' =>
      refine .inl (psi_lt_of (Nat.le_refl _) (Nat.le_refl _) (Nat.le_refl _) ?_)
      have h12 : lvl w = 12 := by simp [lvl, hpc']
      rw [h12]
      refine Nat.lt_of_le_of_lt (?_ : _ ≤ 11) (by omega)
      simp only [lvl, retryable, Bool.false_eq_true, ↓reduceIte]
      apply pro_le
      split <;> omega
    | refetchNone hpc' | refetch hpc' =>
      exact .inr ⟨nofun, psi_le_of (Nat.le_refl _) (Nat.le_refl _) (Nat.le_refl _)
        (by rw [show lvl w = 11 by simp [lvl, hpc']]; exact lvl_d_wait_le _ _ _)⟩
  | timer hpc hp =>
    refine .inl (.inr ⟨nofun, ?_⟩)
    by_cases hf : fresh w.obs = true
    · have hg := good_of_fresh hp hf
      simp only [Psi, nSched, lvl, hpc, hf, hg, ↓reduceIte]
      exact Nat.le_refl _
    · simp only [Psi, nSched, lvl, hpc, hf]
      split <;> simp
  | @cancelled id rest hpc hp hc =>
    -- the result is `context.Canceled`: the call ends
    exact .inl (.inl (psi_lt_consume (Nat.le_refl _) (Nat.le_refl _)
      (by simp only [hc]; exact Nat.lt_succ_of_le (filter_head_le ..))
      (Nat.le_trans (lvl_idle_none rfl rfl (hL.sticky.lastTask_none hpc rfl)) (by omega))))
  | @result id o rest hpc hp hc ho =>
    exact .inl (.inl (psi_lt_consume (Nat.le_refl _) (Nat.le_refl _)
      (by simp only [hc]; exact Nat.lt_succ_of_le (filter_head_le ..)) (Nat.le_refl 3)))
  | @complete id t rest hpc hp hc hr =>
    have hlen := filter_head_le id t rest
    refine .inl (.inr ⟨(hpc ▸ nofun : w.pc ≠ .idle), ?_⟩)
    simp only [Psi, nSched, hc, hr, List.length_cons, List.nil_append, List.length_nil]
    have : lvl { w with running := List.filter (fun x => x.1 != id) ((id, t) :: rest), completed := [(id, Outcome.nil)] } = lvl w := by
      simp only [lvl, hpc]
    omega
  | @advance d hpc hp hc hr ha =>
    refine .inl (.inr ⟨(hpc ▸ nofun : w.pc ≠ .idle), ?_⟩)
    by_cases hf : fresh w.obs = true
    · have hg := fresh_advance ha hf
      simp only [Psi, nSched, lvl, hpc, hf, hg, ↓reduceIte, hc, hr, List.length_nil]
      omega
    · simp only [Psi, nSched, lvl, hpc, hf, hc, hr, List.length_nil, Bool.false_eq_true, ↓reduceIte]
      split <;> omega

theorem blocks_nSched {w : World} (hQ : PQ w) (h : Blocks w) : nSched w = 0 :=
  cntSched_zero.2 (blocked_none_scheduled hQ.round h.1 h.2.1 h.2.2.2.2)

theorem psi_step {w : World} (hQ : PQ w) (hS : 0 < nSched w) : Dec w (w.step (autoAct w)) := by
  rcases (auto_spec w).dec hQ with h | ⟨h, _⟩
  · exact h
  · have := blocks_nSched hQ h
    omega

/-- The call has returned `AwaitingNext` from a blocked `select`: between two calls, nothing
scheduled, nothing running, no completion queued, no fire pending, nothing armed. -/
structure Quiet (w : World) : Prop where
  pc : w.pc = .idle
  ret : w.ret = .awaitingNext
  sched : nSched w = 0
  running : w.running = []
  completed : w.completed = []
  pending : w.obs.clock.pending = false
  armed : w.obs.clock.armed = none
  last : w.lastTask = none
  gerr : w.getNextErr = false
  lerr : w.obs.hook.lastErr = none

theorem drive_dec_gen (n : Nat) (w : World) (hQ : PQ w) (h : rank w ≤ n) :
    Psi (drive n w) < Psi w ∨ Quiet (drive n w) := by
  refine drive_induct (Q := fun w' => PQ w' ∧ Psi w' ≤ Psi w) (R := fun w' => Psi w' < Psi w ∨ Quiet w')
    (fun w' ⟨hQ', hle⟩ hne => ⟨hQ'.auto, ?_⟩) (fun w' ⟨hQ', hle⟩ hi => ?_) n w ⟨hQ, Nat.le_refl _⟩ h
  · rcases (auto_spec w').dec hQ' with (hd | ⟨_, hd⟩) | ⟨_, hstep⟩
    · exact Nat.le_trans (Nat.le_of_lt hd) hle
    · exact Nat.le_trans hd hle
    · exact absurd (by rw [hstep]; rfl) hne
  · rcases (auto_spec w').dec hQ' with (hd | ⟨hne, _⟩) | ⟨hb, hstep⟩
    · exact .inl (Nat.lt_of_lt_of_le hd hle)
    · exact absurd hi hne
    · have h0 := blocks_nSched hQ' hb
      obtain ⟨hpc, hp, hc, hr, ha⟩ := hb
      rw [hstep]
      exact .inr ⟨rfl, rfl, h0, hr, hc, hp, ha, hQ'.round.1.sticky.lastTask_none hpc rfl,
        hQ'.round.1.sticky.getNextErr_false hpc rfl, hQ'.round.2.2 hpc⟩

/-- One round of the fair fault-free driver strictly decreases the potential, or it is the blocked
round and the world is quiet. (No hypothesis on the number of scheduled tasks.) -/
theorem round_decreases_gen {w : World} (hL : LiveInv w) (hS : StartedOk w) (hpc : w.pc = .idle) :
    Psi (driveRound w) < Psi w ∨ Quiet (driveRound w) :=
  drive_dec_gen 12 w (PQ.of_idle hL hS hpc) (rank_le w)

/-- One round of the fair fault-free driver, started between two calls while a task is
scheduled, strictly decreases the potential (or leaves nothing scheduled). -/
theorem round_decreases {w : World} (hL : LiveInv w) (hS : StartedOk w) (hpc : w.pc = .idle)
    (_hpos : 0 < nSched w) : nSched (driveRound w) = 0 ∨ Psi (driveRound w) < Psi w :=
  (round_decreases_gen hL hS hpc).symm.imp (·.sched) id

/-- `base` is the log at the start, `ids` the ids that were scheduled at the start. Each of them is
still stored as scheduled, or its work function has been started since (an entry in the part of the
log that was appended to `base`), or it has just been marked and `GetById` is about to fetch it. -/
def Track (base : List RunEntry) (ids : List String) (w : World) : Prop :=
  ∃ new, w.log = base ++ new ∧ ∀ id ∈ ids,
    (∃ u ∈ w.obs.repo.tasks, u.id = id ∧ u.state = .scheduled) ∨ (∃ e ∈ new, e.id = id) ∨
    (∃ t, w.pc = .d_get t ∧ t.id = id ∧ w.obs.repo.lookup id ≠ none)

theorem Track.init (w : World) :
    Track w.log ((w.obs.repo.tasks.filter isSched).map (·.id)) w := by
  refine ⟨[], by simp, ?_⟩
  intro id hid
  obtain ⟨u, hu, rfl⟩ := List.mem_map.1 hid
  have ⟨h1, h2⟩ := List.mem_filter.1 hu
  exact Or.inl ⟨u, h1, rfl, by simpa [isSched] using h2⟩

theorem Track.started {w0 w : World} (h : Track w0.log ((w0.obs.repo.tasks.filter isSched).map (·.id)) w)
    (h0 : nSched w = 0) (hpc : w.pc = .idle) :
    ∃ new, w.log = w0.log ++ new ∧
      ∀ t ∈ w0.obs.repo.tasks, t.state = .scheduled → ∃ e ∈ new, e.id = t.id := by
  obtain ⟨new, hlog, htr⟩ := h
  refine ⟨new, hlog, fun t ht hs => ?_⟩
  have hid : t.id ∈ (w0.obs.repo.tasks.filter isSched).map (·.id) :=
    List.mem_map.2 ⟨t, List.mem_filter.2 ⟨ht, by simpa [isSched] using hs⟩, rfl⟩
  rcases htr t.id hid with ⟨u, hu, _, hus⟩ | h | ⟨t', ht', _⟩
  · exact absurd hus (cntSched_zero.1 h0 u hu)
  · exact h
  · rw [hpc] at ht'; cases ht'

theorem Track.move {base : List RunEntry} {ids : List String} {w w' : World}
    (h : Track base ids w) (hlog : w'.log = w.log)
    (hrepo : ∀ u ∈ w.obs.repo.tasks, u.state = .scheduled → u ∈ w'.obs.repo.tasks)
    (hpc : ∀ t, w.pc = .d_get t → w.obs.repo.lookup t.id = none) : Track base ids w' := by
  obtain ⟨new, h1, h2⟩ := h
  refine ⟨new, by rw [hlog, h1], ?_⟩
  intro id hid
  rcases h2 id hid with ⟨u, hu, hi, hs⟩ | h3 | ⟨t, ht, hti, hne⟩
  · exact Or.inl ⟨u, hrepo u hu hs, hi, hs⟩
  · exact Or.inr (Or.inl h3)
  · exact absurd (hti ▸ hpc t ht) hne

theorem Track.auto_step {base : List RunEntry} {ids : List String} {w w' : World} (hQ : PQ w)
    (h : Track base ids w) (ha : AutoStep w w') : Track base ids w' := by
  have hok := hQ.round.1.tasksOk
  cases ha with
  | sched hpc hf hen _ hs =>
    cases hs with
    | stuck h' => exact absurd hen h'
    | cancelCtx | core => exact hf.elim
    | @markErr t retry f hf' e hpc' _ _ he =>
      -- refused: the repository is as it was
      obtain ⟨rfl, rfl⟩ := hf
      have hsame := dispatch_err_same w.obs t.id none (by rw [World.faultErr_none_some he]; rfl)
      exact h.move rfl (fun u hu _ => by
        show u ∈ (w.obs.step (.dispatch t.id) none).1.repo.tasks
        rw [hsame]; exact hu) (by simp only [hpc', reduceCtorEq, false_implies, implies_true])
    | @markOk t retry f hf' hpc' =>
      obtain ⟨rfl, rfl⟩ := hf
      obtain ⟨new, h1, h2⟩ := h
      refine ⟨new, h1, fun id hid => ?_⟩
      rcases h2 id hid with ⟨u, hu, hi, hs⟩ | h3 | ⟨t', ht', _⟩
      · by_cases hti : u.id = t.id
        · -- the task marked: `GetById` will find it
          refine Or.inr (Or.inr ⟨t, rfl, hti ▸ hi, ?_⟩)
          rw [← hi, hti, (dispatch_step_scheduled w.obs t.id none (hti ▸ hok.lookup_mem hu) hs).2]
          nofun
        · exact Or.inl ⟨u, dispatch_keeps _ _ _ hu hti, hi, hs⟩
      · exact Or.inr (Or.inl h3)
      · rw [hpc'] at ht'; cases ht'
    | getFault _ hf' => cases hf; cases hf'
    | getCtx hpc' _ hc => exact (hQ.ctx.not_done hpc' nofun hc).elim
    | getNone hpc' _ _ hl =>
      exact h.move rfl (fun u hu _ => hu) fun t' ht' => by cases hpc'.symm.trans ht'; exact hl
    | @run t cur f hpc' _ _ hl =>
      obtain ⟨new, h1, h2⟩ := h
      refine ⟨new ++ [{ id := t.id, at_ := w.obs.clock.now, task := cur }], ?_, fun id hid => ?_⟩
      · show w.log ++ _ = _
        rw [h1, List.append_assoc]
      · rcases h2 id hid with ⟨u, hu, hi, hs⟩ | ⟨e, he, hei⟩ | ⟨t', ht', hti, _⟩
        · exact Or.inl ⟨u, hu, hi, hs⟩
        · exact Or.inr (Or.inl ⟨e, List.mem_append_left _ he, hei⟩)
        · rw [hpc'] at ht'; cases ht'
          exact Or.inr (Or.inl ⟨_, List.mem_append_right _ (List.mem_singleton.2 rfl), hti⟩)
    | start | rStart =>
      exact h.move rfl (fun u hu _ => by rw [startTimer_repo]; exact hu)
        (by simp only [*, reduceCtorEq, false_implies, implies_true])
    | done | redoneErr | redone =>
      exact h.move rfl (fun u hu hs => done_keeps_sched hok _ _ _ hu hs)
        (by simp only [*, reduceCtorEq, false_implies, implies_true])
    | _ =>
      exact h.move rfl (fun u hu _ => hu) (by simp only [*, reduceCtorEq, false_implies, implies_true])
  | timer hpc | cancelled hpc | result hpc | complete hpc | advance hpc | blocked hpc =>
    exact h.move rfl (fun u hu _ => hu) (by simp only [hpc, reduceCtorEq, false_implies, implies_true])

theorem Track.drive {base : List RunEntry} {ids : List String} {w : World} (hQ : PQ w)
    (h : Track base ids w) (n : Nat) : Track base ids (drive n w) :=
  (drive_inv (Q := fun w => PQ w ∧ Track base ids w) (fun _ h => ⟨h.1.auto, h.2.auto_step h.1 (auto_spec _)⟩) n w ⟨hQ, h⟩).2

theorem rounds_succ (n : Nat) (w : World) : rounds (n + 1) w = rounds n (driveRound w) := rfl

theorem progress_aux {base : List RunEntry} {ids : List String} :
    ∀ (k : Nat) (w : World), LiveInv w → StartedOk w → w.pc = .idle → Track base ids w → Psi w ≤ k →
      ∃ n, n ≤ k ∧ nSched (rounds n w) = 0 ∧ (rounds n w).pc = .idle ∧ Track base ids (rounds n w) ∧
        LiveInv (rounds n w) ∧ StartedOk (rounds n w)
  | k, w, hL, hS, hpc, hT, hk => by
    by_cases hpos : 0 < nSched w
    · have h12 : 12 ≤ Psi w := by unfold Psi; omega
      have ⟨hL', hS', hpc'⟩ := round_inv hL hS hpc
      have hT' : Track base ids (driveRound w) := hT.drive (PQ.of_idle hL hS hpc) 12
      rcases round_decreases hL hS hpc hpos with h0 | hlt
      · exact ⟨1, by omega, h0, hpc', hT', hL', hS'⟩
      · obtain ⟨n, hn, h1, h2, h3, h4, h5⟩ :=
          progress_aux (k - 1) (driveRound w) hL' hS' hpc' hT' (by omega)
        exact ⟨n + 1, by omega, h1, h2, h3, h4, h5⟩
    · exact ⟨0, Nat.zero_le _, by simp only [rounds]; omega, hpc, hT, hL, hS⟩
termination_by k => k
decreasing_by omega

/-- The global progress theorem. From any world between two calls that satisfies the invariants,
the fair fault-free driver needs at most `Psi w ≤ bound w` rounds to reach a world between two calls
in which NO task is scheduled (a fortiori none that is due); every task that was scheduled at the
start has had its work function started since (an entry in the part of the log appended since), and
the invariants hold again. -/
theorem progress {w : World} (hL : LiveInv w) (hS : StartedOk w) (hpc : w.pc = .idle) :
    ∃ n, n ≤ Psi w ∧ (rounds n w).pc = .idle ∧
      (∀ t ∈ (rounds n w).obs.repo.tasks, t.state ≠ .scheduled) ∧
      (∃ new, (rounds n w).log = w.log ++ new ∧
        ∀ t ∈ w.obs.repo.tasks, t.state = .scheduled → ∃ e ∈ new, e.id = t.id) ∧
      LiveInv (rounds n w) ∧ StartedOk (rounds n w) := by
  obtain ⟨n, hn, h0, h1, hT, h3, h4⟩ :=
    progress_aux (Psi w) w hL hS hpc (Track.init w) (Nat.le_refl _)
  exact ⟨n, hn, h1, cntSched_zero.1 h0, hT.started h0 h1, h3, h4⟩

theorem rounds_inv {w : World} (hL : LiveInv w) (hS : StartedOk w) (hD : DispInv w)
    (hpc : w.pc = .idle) (n : Nat) :
    LiveInv (rounds n w) ∧ StartedOk (rounds n w) ∧ DispInv (rounds n w) ∧ (rounds n w).pc = .idle :=
  rounds_ind (Q := fun w => LiveInv w ∧ StartedOk w ∧ DispInv w ∧ w.pc = .idle)
    (fun _ ⟨hL, hS, hD, hpc⟩ =>
      ⟨(round_inv hL hS hpc).1, (round_inv hL hS hpc).2.1, hD.drive hL 12, driveRound_idle _⟩)
    n w ⟨hL, hS, hD, hpc⟩

theorem nSched_rounds (n : Nat) (w : World) : nSched (rounds n w) ≤ nSched w :=
  rounds_inv_auto (Q := fun w' => nSched w' ≤ nSched w) (fun w' h => Nat.le_trans (auto_spec w').nSched_le h) n w
    (Nat.le_refl _)

theorem rounds_add (m n : Nat) (w : World) : rounds (m + n) w = rounds n (rounds m w) := by
  induction m generalizing w with
  | zero => rw [Nat.zero_add]; rfl
  | succ m ih => rw [Nat.add_right_comm]; exact ih _

theorem quiescent_stable {w : World} {n : Nat}
    (h : ∀ t ∈ (rounds n w).obs.repo.tasks, t.state ≠ .scheduled) (m : Nat) (hm : n ≤ m) :
    ∀ t ∈ (rounds m w).obs.repo.tasks, t.state ≠ .scheduled := by
  obtain ⟨d, rfl⟩ : ∃ d, m = n + d := ⟨m - n, by omega⟩
  rw [rounds_add]
  apply cntSched_zero.1
  have h0 : nSched (rounds n w) = 0 := cntSched_zero.2 h
  have := nSched_rounds d (rounds n w)
  unfold nSched at this h0
  omega

theorem quiescence_aux {base : List RunEntry} {ids : List String} :
    ∀ (k : Nat) (w : World), LiveInv w → StartedOk w → w.pc = .idle → Track base ids w → Psi w ≤ k →
      ∃ n, 1 ≤ n ∧ n ≤ k + 1 ∧ Quiet (rounds n w) ∧ Track base ids (rounds n w) ∧
        LiveInv (rounds n w) ∧ StartedOk (rounds n w)
  | k, w, hL, hS, hpc, hT, hk => by
    have ⟨hL', hS', hpc'⟩ := round_inv hL hS hpc
    have hT' : Track base ids (driveRound w) := hT.drive (PQ.of_idle hL hS hpc) 12
    rcases round_decreases_gen hL hS hpc with hlt | hq
    · obtain ⟨n, hn1, hn, h1, h2, h3, h4⟩ :=
        quiescence_aux (k - 1) (driveRound w) hL' hS' hpc' hT' (by omega)
      exact ⟨n + 1, by omega, by omega, h1, h2, h3, h4⟩
    · exact ⟨1, Nat.le_refl _, by omega, hq, hT', hL', hS'⟩
termination_by k => k
decreasing_by omega

/-- Quiescence. From any world between two calls that satisfies the invariants, the fair fault-free
driver needs at most `Psi w` productive rounds; the next round (at the latest round `Psi w + 1`)
returns `AwaitingNext` from a blocked `select` with nothing scheduled, nothing running, no
completion queued, no fire pending and nothing armed; every task that was scheduled at the start
has had its work function started since. -/
theorem quiescence {w : World} (hL : LiveInv w) (hS : StartedOk w) (hpc : w.pc = .idle) :
    ∃ n, 1 ≤ n ∧ n ≤ Psi w + 1 ∧ Quiet (rounds n w) ∧
      (∃ new, (rounds n w).log = w.log ++ new ∧
        ∀ t ∈ w.obs.repo.tasks, t.state = .scheduled → ∃ e ∈ new, e.id = t.id) ∧
      LiveInv (rounds n w) ∧ StartedOk (rounds n w) := by
  obtain ⟨n, hn1, hn, hq, hT, h3, h4⟩ :=
    quiescence_aux (Psi w) w hL hS hpc (Track.init w) (Nat.le_refl _)
  exact ⟨n, hn1, hn, hq, hT.started hq.sched hq.pc, h3, h4⟩

/-- `select` blocks because no fire is pending and nothing is armed, running or queued: `Quiet.sched` is not used -/
theorem quiet_round {w : World} (hq : Quiet w) :
    driveRound w = { w with ctxDone := false } := by
  obtain ⟨hpc, hr, _, hrun, hcomp, hp, ha, hl, hg, he⟩ := hq
  have hq' : retryable w.ret = false := by rw [hr]; rfl
  simp [driveRound, drive, autoAct, World.step, World.sched_beginStep, World.sched_lastErr0,
    World.afterPrologue_none, World.sched_selCtx, World.finish, hpc, hq', hg, he, hl, hp, hcomp, hrun, ha]
  exact hr.symm

theorem Quiet.ctx {w : World} (hq : Quiet w) : Quiet { w with ctxDone := false } :=
  ⟨hq.pc, hq.ret, hq.sched, hq.running, hq.completed, hq.pending, hq.armed, hq.last, hq.gerr,
    hq.lerr⟩

theorem quiet_rounds {w : World} (hq : Quiet w) (n : Nat) : Quiet (rounds n w) :=
  rounds_ind (fun _ hq => quiet_round hq ▸ hq.ctx) n w hq

end Gk.Live

