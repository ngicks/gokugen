/-
Correctness of the `container/heap` operations: `Push`, `Pop`, `Remove`, `Fix`.
-/
import Gk.Proofs.HeapDown

set_option linter.unusedSectionVars false

namespace Gk
namespace H
variable {α : Type} [DecidableEq α]

/-- The root of a heap is a minimum. -/
theorem root_is_min {lt : α → α → Bool} (o : LtOrder lt) {arr : Array α} (hh : IsHeap lt arr) :
    ∀ j (hj : j < arr.size) (h0 : 0 < arr.size), lt arr[j] arr[0] = false := by
  intro j
  induction j using Nat.strongRecOn with
  | _ j ih =>
    intro hj h0
    by_cases hj0 : j = 0
    · subst hj0; exact o.irrefl _
    · have hpj := parent_lt (Nat.pos_of_ne_zero hj0)
      exact o.ntrans _ _ _ (hh ((j-1)/2) j (Nat.lt_trans hpj hj) hj (child_iff.2 ⟨Nat.pos_of_ne_zero hj0, rfl⟩))
        (ih ((j-1)/2) hpj (Nat.lt_trans hpj hj) h0)

/-- `IsHeap` only depends on the comparator restricted to the elements of the array. -/
theorem isHeap_congr {lt lt' : α → α → Bool} {arr : Array α}
    (agree : ∀ a b, a ∈ arr → b ∈ arr → lt a b = lt' a b) : IsHeap lt arr ↔ IsHeap lt' arr := by
  constructor
  · intro h i j hi hj hij
    rw [← agree _ _ (Array.getElem_mem hj) (Array.getElem_mem hi)]
    exact h i j hi hj hij
  · intro h i j hi hj hij
    rw [agree _ _ (Array.getElem_mem hj) (Array.getElem_mem hi)]
    exact h i j hi hj hij

theorem heapExceptP_of_heapP {lt₀ lt : α → α → Bool} (o : LtOrder lt₀) {arr₀ arr : Array α}
    {i n : Nat} (hs : arr.size = arr₀.size) (hh : HeapP lt₀ arr₀ n)
    (agree : ∀ p q (hp : p < arr.size) (hq : q < arr.size), p < n → q < n → p ≠ i → q ≠ i →
      lt arr[p] arr[q] = lt₀ (arr₀[p]'(hs ▸ hp)) (arr₀[q]'(hs ▸ hq))) :
    HeapExceptP lt arr i n := by
  have he := (hh.except o i).1
  constructor
  · intro j hj h0 hjn hji hpi
    rw [agree j ((j-1)/2) hj _ hjn (Nat.lt_trans (parent_lt h0) hjn) hji hpi]
    exact he.1 j (hs ▸ hj) h0 hjn hji hpi
  · intro j hj h0 hjn hpi h0i
    subst hpi
    rw [agree j _ hj _ hjn (Nat.lt_trans (parent_lt h0i) (Nat.lt_trans (parent_lt h0) hjn))
      (Nat.ne_of_gt (parent_lt h0)) (Nat.ne_of_lt (parent_lt h0i))]
    exact he.2 j (hs ▸ hj) h0 hjn rfl h0i

/-- `heap.Push`. -/
theorem push_correct {lt : α → α → Bool} (o : LtOrder lt) (h : H α) (x : α)
    (hx : x ∉ h.arr.toList) (nd : h.arr.toList.Nodup) (hh : IsHeap lt h.arr) (ok : IdxOk h) :
    (push lt h x).arr.toList.Perm (x :: h.arr.toList) ∧
    IsHeap lt (push lt h x).arr ∧
    IdxOk (push lt h x) ∧
    (∀ y, y ≠ x → y ∉ h.arr.toList → (push lt h x).idx y = h.idx y) := by
  -- the state before `up`: `x` in a new last slot, with its `Index` set
  let h0 : H α := ⟨h.arr.push x, fun y => if y = x then (h.arr.size : Int) else h.idx y⟩
  have f : Frame h0 (push lt h x) := up_frame lt h0 h.arr.size
  have hsz : h0.arr.size = h.arr.size + 1 := Array.size_push x
  have lift : ∀ {k}, k < h.arr.size → k < h0.arr.size := fun hk => hsz ▸ Nat.lt_succ_of_lt hk
  have hget : ∀ k (hk : k < h.arr.size), h0.arr[k]'(lift hk) = h.arr[k] :=
    fun k hk => Array.getElem_push_lt hk
  have hl : h0.arr.toList = h.arr.toList ++ [x] := Array.toList_push
  have nd0 : h0.arr.toList.Nodup := by
    rw [hl, List.nodup_append]
    exact ⟨nd, List.pairwise_singleton _ _, fun a ha b hb e => hx (List.mem_singleton.1 hb ▸ e ▸ ha)⟩
  have ok0 : IdxOk h0 := by
    intro k hk
    rcases Nat.lt_succ_iff_lt_or_eq.1 (hsz ▸ hk) with hkn | rfl
    · have hne : h.arr[k] ≠ x := fun e => hx (e ▸ Array.getElem_mem_toList hkn)
      rw [hget k hkn]
      exact (if_neg hne).trans (ok k hkn)
    · exact (congrArg h0.idx Array.getElem_push_eq).trans (if_pos rfl)
  refine ⟨?_, ?_, f.idxOk nd0 ok0, ?_⟩
  · exact (f.perm.trans (hl ▸ List.perm_append_singleton _ _))
  · rw [isHeap_iff_heapP, f.size_eq, hsz]
    have hp := (isHeap_iff_heapP lt h.arr).1 hh
    have leaf : ∀ {j}, 0 < j → j < h.arr.size + 1 → (j-1)/2 ≠ h.arr.size := fun h0j hjn e =>
      Nat.lt_irrefl _ (Nat.lt_of_lt_of_le (e ▸ parent_lt h0j) (Nat.le_of_lt_succ hjn))
    refine up_heap o h0 h.arr.size _ (Nat.lt_succ_self _) (Nat.le_of_eq hsz.symm) ⟨?_, ?_⟩ ?_
    · intro j hj h0j hjn hjne _
      have hj' : j < h.arr.size := Nat.lt_of_le_of_ne (Nat.le_of_lt_succ hjn) hjne
      rw [hget j hj', hget _ (Nat.lt_trans (parent_lt h0j) hj')]
      exact hp j hj' h0j hj'
    · exact fun j hj h0j hjn hpj _ => absurd hpj (leaf h0j hjn)
    · exact fun j hj h0j hjn hpj => absurd hpj (leaf h0j hjn)
  · intro y hyx hy
    rw [f.idx_out y (by rw [hl]; simp [hy, hyx])]
    exact if_neg hyx

theorem popLast_push (ys : Array α) (x : α) (idx : α → Int) :
    popLast ⟨ys.push x, idx⟩ = (⟨ys, fun y => if y = x then (-1 : Int) else idx y⟩, some x) := by
  simp [popLast]

/-- `popLast` after a sequence of swaps that brought `x` to the last slot and left a heap on the
rest. -/
theorem popLast_of_frame {lt : α → α → Bool} (h h3 : H α) (x : α) (n : Nat) (f : Frame h h3)
    (nd : h.arr.toList.Nodup) (ok : IdxOk h) (hsz : h3.arr.size = n + 1)
    (hx : h3.arr[n] = x) (hp : HeapP lt h3.arr n) :
    ∃ h', popLast h3 = (h', some x) ∧
      h'.arr.toList.Perm (h.arr.toList.erase x) ∧
      IsHeap lt h'.arr ∧ IdxOk h' ∧ h'.idx x = -1 ∧
      (∀ y, y ∉ h.arr.toList → h'.idx y = h.idx y) := by
  -- `h3` is `ys.push x` with `ys` of size `n`
  obtain ⟨arr3, idx3⟩ := h3
  obtain ⟨ys, a, rfl⟩ := Array.exists_push_of_size_eq_add_one hsz
  obtain rfl : ys.size = n := by simpa using hsz
  obtain rfl : a = x := by simpa using hx
  have lift : ∀ {k}, k < ys.size → k < (ys.push a).size := fun hk => by
    rw [Array.size_push]; exact Nat.lt_succ_of_lt hk
  have get : ∀ k (hk : k < ys.size), (ys.push a)[k]'(lift hk) = ys[k] :=
    fun k hk => Array.getElem_push_lt hk
  have nd3 : (ys.toList ++ [a]).Nodup := by simpa using f.nodup nd
  have hnot : a ∉ ys.toList := fun hmem => (List.nodup_append.1 nd3).2.2 a hmem a (by simp) rfl
  refine ⟨_, popLast_push ys a idx3, ?_, ?_, ?_, if_pos rfl, ?_⟩
  · have := f.perm.erase a
    rwa [Array.toList_push, List.erase_append_right _ hnot, List.erase_cons_head,
      List.append_nil] at this
  · rw [isHeap_iff_heapP]
    intro j hj h0 _
    have := hp j (lift hj) h0 hj
    rwa [get j hj, get _ (Nat.lt_trans (parent_lt h0) hj)] at this
  · intro k hk
    have hne : ys[k] ≠ a := fun e => hnot (e ▸ Array.getElem_mem_toList hk)
    have := f.idxOk nd ok k (lift hk)
    rw [get k hk] at this
    simp only [hne, if_false]
    exact this
  · intro y hy
    have hyx : y ≠ a := by
      rintro rfl
      exact hy (f.perm.mem_iff.1 (by simp))
    simp only [hyx, if_false]
    exact f.idx_out y hy

theorem remove_eq (lt : α → α → Bool) (h : H α) (i : Nat) :
    remove lt h i =
      if hi : i < h.arr.size then
        if hne : h.arr.size - 1 ≠ i then
          popLast (sift lt (h.swap i (h.arr.size - 1) hi (Nat.sub_one_lt_of_lt hi)) i (h.arr.size - 1))
        else popLast h
      else (h, none) := rfl

theorem heapExceptP_swap_last {lt : α → α → Bool} (o : LtOrder lt) (arr : Array α) (i : Nat)
    (hi : i < arr.size) (hh : IsHeap lt arr) :
    HeapExceptP lt (arr.swap i (arr.size - 1) hi (Nat.sub_one_lt_of_lt hi)) i (arr.size - 1) := by
  have hp := ((isHeap_iff_heapP lt arr).1 hh).mono (Nat.sub_le arr.size 1)
  refine heapExceptP_of_heapP o (Array.size_swap ..) hp ?_
  intro p q hp' hq' hpn hqn hpi hqi
  rw [Array.getElem_swap_of_ne hpi (Nat.ne_of_lt hpn), Array.getElem_swap_of_ne hqi (Nat.ne_of_lt hqn)]

/-- `heap.Remove` at a valid position. -/
theorem remove_correct {lt : α → α → Bool} (o : LtOrder lt) (h : H α) (i : Nat)
    (hi : i < h.arr.size) (nd : h.arr.toList.Nodup) (hh : IsHeap lt h.arr) (ok : IdxOk h) :
    ∃ h', remove lt h i = (h', some h.arr[i]) ∧
      h'.arr.toList.Perm (h.arr.toList.erase h.arr[i]) ∧
      IsHeap lt h'.arr ∧ IdxOk h' ∧ h'.idx h.arr[i] = -1 ∧
      (∀ y, y ∉ h.arr.toList → h'.idx y = h.idx y) := by
  have hsz : h.arr.size = h.arr.size - 1 + 1 := (Nat.sub_add_cancel (Nat.zero_lt_of_lt hi)).symm
  rw [remove_eq, dif_pos hi]
  split
  · next hne =>
    have hlast := Nat.sub_one_lt_of_lt hi
    have hin : i < h.arr.size - 1 := Nat.lt_of_le_of_ne (Nat.le_sub_one_of_lt hi) (Ne.symm hne)
    have f := (swap_frame h i _ hi hlast).trans (sift_frame lt _ i (h.arr.size - 1))
    refine popLast_of_frame h _ h.arr[i] (h.arr.size - 1) f nd ok (f.size_eq.trans hsz) ?_
      (sift_heap o _ i _ hin (by rw [swap_size]; exact Nat.sub_le _ 1)
        (heapExceptP_swap_last o h.arr i hi hh))
    rw [sift_get_ge lt (h.swap i _ hi hlast) i _ hin _ (Nat.le_refl _) (by rw [swap_size]; exact hlast)]
    exact Array.getElem_swap_right
  · next hne =>
    obtain rfl : h.arr.size - 1 = i := Classical.not_not.1 hne
    exact popLast_of_frame h h _ _ (Frame.refl h) nd ok hsz rfl
      (((isHeap_iff_heapP lt h.arr).1 hh).mono (Nat.sub_le ..))

/-- `heap.Remove` out of range (the Go code panics). -/
theorem remove_out_of_range (lt : α → α → Bool) (h : H α) (i : Nat) (hi : h.arr.size ≤ i) :
    remove lt h i = (h, none) := by
  rw [remove_eq, dif_neg (Nat.not_lt_of_le hi)]

theorem down_leaf (lt : α → α → Bool) (h : H α) {i n : Nat} (hn : ¬ 2 * i + 1 < n) :
    down lt h i n = (h, i) := by
  rw [down, dif_neg fun h' => hn h'.1]

/-- `heap.Pop` is `heap.Remove` at the root, as the documentation of `container/heap` says. -/
theorem pop_eq_remove (lt : α → α → Bool) (h : H α) : pop lt h = remove lt h 0 := by
  rw [remove_eq]
  unfold pop
  split
  · next h0 =>
    split
    · simp only [sift, up_zero, ite_self]
    · next hne =>
      -- one element: `swap 0 0` only rewrites the `Index` field that `popLast` overwrites
      obtain ⟨arr, idx⟩ := h
      obtain ⟨ys, a, rfl⟩ := Array.exists_push_of_size_eq_add_one (n := 0) (xs := arr)
        (by simp at hne h0 ⊢; omega)
      obtain rfl : ys = #[] := by simpa using hne
      simp [swap, popLast, down_leaf]
      funext y
      split <;> simp_all
  · rfl

/-- `heap.Pop` on a non-empty heap: removes and returns the root, which is a minimum. -/
theorem pop_correct {lt : α → α → Bool} (o : LtOrder lt) (h : H α)
    (h0 : 0 < h.arr.size) (nd : h.arr.toList.Nodup) (hh : IsHeap lt h.arr) (ok : IdxOk h) :
    ∃ h', pop lt h = (h', some h.arr[0]) ∧
      (∀ j (hj : j < h.arr.size), lt h.arr[j] h.arr[0] = false) ∧
      h'.arr.toList.Perm (h.arr.toList.erase h.arr[0]) ∧
      IsHeap lt h'.arr ∧ IdxOk h' ∧ h'.idx h.arr[0] = -1 ∧
      (∀ y, y ∉ h.arr.toList → h'.idx y = h.idx y) := by
  obtain ⟨h', e, rest⟩ := remove_correct o h 0 h0 nd hh ok
  exact ⟨h', (pop_eq_remove lt h).trans e, fun j hj => root_is_min o hh j hj h0, rest⟩

/-- `heap.Pop` on an empty heap (the Go code panics). -/
theorem pop_empty (lt : α → α → Bool) (h : H α) (h0 : h.arr.size = 0) : pop lt h = (h, none) :=
  (pop_eq_remove lt h).trans (remove_out_of_range lt h 0 (Nat.le_of_eq h0))

/-- The state of the array after the key of the element at position `i` changed: every parent/child
pair that does not involve position `i` is in order, and every child of `i` is not smaller than the
parent of `i`. -/
def HeapExcept (lt : α → α → Bool) (arr : Array α) (i : Nat) : Prop :=
  (∀ p c (hp : p < arr.size) (hc : c < arr.size), (c = 2*p+1 ∨ c = 2*p+2) → p ≠ i → c ≠ i →
      lt arr[c] arr[p] = false) ∧
  (∀ p c (hp : p < arr.size) (hc : c < arr.size), (i = 2*p+1 ∨ i = 2*p+2) → (c = 2*i+1 ∨ c = 2*i+2) →
      lt arr[c] arr[p] = false)

theorem heapExcept_iff (lt : α → α → Bool) (arr : Array α) (i : Nat) :
    HeapExcept lt arr i ↔ HeapExceptP lt arr i arr.size := by
  constructor
  · rintro ⟨h1, h2⟩
    refine ⟨fun j hj h0 _ hji hpi => ?_, fun j hj h0 _ hpi h0i => ?_⟩
    · exact h1 ((j-1)/2) j _ hj (child_iff.2 ⟨h0, rfl⟩) hpi hji
    · exact h2 ((i-1)/2) j _ hj (child_iff.2 ⟨h0i, rfl⟩) (child_iff.2 ⟨h0, hpi⟩)
  · rintro ⟨h1, h2⟩
    refine ⟨fun p c hp hc hpc hpi hci => ?_, fun p c hp hc hip hci => ?_⟩
    · obtain ⟨h0, rfl⟩ := child_iff.1 hpc
      exact h1 c hc h0 hc hci hpi
    · obtain ⟨h0i, rfl⟩ := child_iff.1 hip
      obtain ⟨h0, hpi⟩ := child_iff.1 hci
      exact h2 c hc h0 hc hpi h0i

theorem IsHeap.heapExcept {lt : α → α → Bool} (o : LtOrder lt) {arr : Array α} (hh : IsHeap lt arr)
    (i : Nat) : HeapExcept lt arr i := by
  rw [heapExcept_iff]
  exact (((isHeap_iff_heapP lt arr).1 hh).except o i).1

/-- General producer of `HeapExcept`: `arr₀` was a heap for `lt₀`, and the new state `(lt, arr)`
agrees with the old one on all pairs of positions other than `i`. Covers both "the comparator
changed on the element at `i`" (`arr = arr₀`) and "the element at `i` was replaced" (`lt = lt₀`). -/
theorem heapExcept_of_isHeap' {lt₀ lt : α → α → Bool} (o : LtOrder lt₀) {arr₀ arr : Array α}
    {i : Nat} (hs : arr.size = arr₀.size) (hh : IsHeap lt₀ arr₀)
    (agree : ∀ p q (hp : p < arr.size) (hq : q < arr.size), p ≠ i → q ≠ i →
      lt arr[p] arr[q] = lt₀ (arr₀[p]'(by omega)) (arr₀[q]'(by omega))) :
    HeapExcept lt arr i := by
  rw [heapExcept_iff]
  refine heapExceptP_of_heapP o hs (hs ▸ (isHeap_iff_heapP lt₀ arr₀).1 hh) ?_
  intro p q hp hq _ _ hpi hqi
  exact agree p q hp hq hpi hqi

/-- The key of the element at position `i` changed (comparator `lt₀` became `lt`). -/
theorem heapExcept_of_isHeap {lt₀ lt : α → α → Bool} (o : LtOrder lt₀) {arr : Array α} {i : Nat}
    (hh : IsHeap lt₀ arr)
    (agree : ∀ p q (hp : p < arr.size) (hq : q < arr.size), p ≠ i → q ≠ i →
      lt arr[p] arr[q] = lt₀ arr[p] arr[q]) :
    HeapExcept lt arr i :=
  heapExcept_of_isHeap' o rfl hh agree

theorem heapExcept_set {lt : α → α → Bool} (o : LtOrder lt) {arr : Array α} {i : Nat}
    (hi : i < arr.size) (x : α) (hh : IsHeap lt arr) : HeapExcept lt (arr.set i x hi) i := by
  refine heapExcept_of_isHeap' o (by simp) hh ?_
  intro p q hp hq hpi hqi
  simp only [Array.getElem_set]
  simp [Ne.symm hpi, Ne.symm hqi]

theorem fix_eq (lt : α → α → Bool) (h : H α) (i : Nat) :
    fix lt h i = if i < h.arr.size then (sift lt h i h.arr.size, true) else (h, false) := rfl

/-- `heap.Fix` at a valid position restores the heap. (`Nodup` and `IdxOk h` are only needed for
`IdxOk` of the result.) -/
theorem fix_correct {lt : α → α → Bool} (o : LtOrder lt) (h : H α) (i : Nat)
    (he : HeapExcept lt h.arr i) (hi : i < h.arr.size) :
    (fix lt h i).2 = true ∧
    IsHeap lt (fix lt h i).1.arr ∧
    (h.arr.toList.Nodup → IdxOk h → IdxOk (fix lt h i).1) ∧
    (fix lt h i).1.arr.toList.Perm h.arr.toList ∧
    (∀ y, y ∉ h.arr.toList → (fix lt h i).1.idx y = h.idx y) := by
  rw [fix_eq, if_pos hi]
  have f := sift_frame lt h i h.arr.size
  refine ⟨rfl, ?_, f.idxOk, f.perm, f.idx_out⟩
  rw [isHeap_iff_heapP, sift_size]
  exact sift_heap o h i h.arr.size hi (Nat.le_refl _) ((heapExcept_iff lt h.arr i).1 he)

/-- `heap.Fix` out of range (the Go code panics). -/
theorem fix_out_of_range (lt : α → α → Bool) (h : H α) (i : Nat) (hi : h.arr.size ≤ i) :
    fix lt h i = (h, false) := by
  rw [fix_eq, if_neg (Nat.not_lt_of_le hi)]

end H
end Gk
