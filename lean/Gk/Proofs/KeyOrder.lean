/-
`Key.less` (= `sortabletask.Less`) is a strict total order on `Key`.
-/
import Gk.Basic

namespace Gk

theorem Key.less_iff (a b : Key) :
    a.less b = true ↔
      (a.scheduledAt : Int) < (b.scheduledAt : Int) ∨ ((a.scheduledAt : Int) = (b.scheduledAt : Int) ∧
        (b.priority < a.priority ∨ (a.priority = b.priority ∧
          ((a.createdAt : Int) < (b.createdAt : Int) ∨
            ((a.createdAt : Int) = (b.createdAt : Int) ∧ a.rank < b.rank))))) := by
  unfold Key.less
  by_cases h1 : a.scheduledAt = b.scheduledAt
  · by_cases h2 : a.priority = b.priority
    · by_cases h3 : a.createdAt = b.createdAt
      · simp [h1, h2, h3]
      · simp [h1, h2, h3]
    · simp [h1, h2]
  · simp [h1]

theorem Key.ext_iff' (a b : Key) :
    a = b ↔ (a.scheduledAt : Int) = (b.scheduledAt : Int) ∧ a.priority = b.priority ∧
      (a.createdAt : Int) = (b.createdAt : Int) ∧ a.rank = b.rank := by
  cases a; cases b; simp

theorem Key.less_irrefl (a : Key) : a.less a = false := by
  rw [Bool.eq_false_iff, ne_eq, Key.less_iff]; unfold Time; omega

theorem Key.less_trans {a b c : Key} (h1 : a.less b = true) (h2 : b.less c = true) :
    a.less c = true := by
  rw [Key.less_iff] at *; unfold Time at *; omega

theorem Key.less_asymm {a b : Key} (h1 : a.less b = true) : b.less a = false :=
  Bool.eq_false_iff.2 fun h2 => by simpa [Key.less_irrefl] using Key.less_trans h1 h2

theorem Key.less_total {a b : Key} (h : a ≠ b) : a.less b = true ∨ b.less a = true := by
  rw [Ne, Key.ext_iff'] at h
  rw [Key.less_iff, Key.less_iff]; unfold Time at *; omega

theorem Key.eq_of_not_less {a b : Key} (h1 : a.less b = false) (h2 : b.less a = false) : a = b :=
  Decidable.byContradiction fun hne =>
    (Key.less_total hne).elim (fun h => nomatch h1.symm.trans h) (fun h => nomatch h2.symm.trans h)

/-- `≥` is transitive because `less` is total: were `a < c`, then `b` is `a` itself, or below `a` and so
below `c`, or above `a`. -/
theorem Key.less_ntrans {a b c : Key} (h1 : a.less b = false) (h2 : b.less c = false) :
    a.less c = false := by
  refine Bool.eq_false_iff.2 fun h3 => ?_
  by_cases e : a = b
  · rw [← e, h3] at h2; cases h2
  · rcases Key.less_total e with h | h
    · rw [h] at h1; cases h1
    · rw [Key.less_trans h h3] at h2; cases h2

theorem Key.less_rank_congr (t t' : Task) {r1 r2 r1' r2' : Nat} (h : r1 < r2 ↔ r1' < r2') :
    (t.key r1).less (t'.key r2) = (t.key r1').less (t'.key r2') := by
  rw [Bool.eq_iff_iff, Key.less_iff, Key.less_iff]
  simp only [Task.key]
  unfold Time
  omega

theorem Task.key_ne (t t' : Task) {r r' : Nat} (h : r ≠ r') : t.key r ≠ t'.key r' :=
  fun e => h (congrArg Key.rank e)

end Gk
