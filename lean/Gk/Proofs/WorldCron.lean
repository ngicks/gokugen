/-
Invariants of the scheduler automaton in its cron configuration (`Gk.CWorld`): C03 / C04 over
`volatileTaskRepo` over the cron store.

One action of the automaton is, on the fields the invariants speak about, a move of the control state that `CtlOk`
describes, over records kept or forgotten, or one of four special transitions (`CStep`, `sched_spec`, `step_spec`);
the invariants are proved against that relation. `InvA` (timing and state of the record handed to the work function)
and `InvC` (ranks and popped ids) hold along every action sequence, `InvD` (ran ⊆ popped, at most once) along those
in which no `EditTask` lands between volatileTaskRepo's Peek and Pop (D18).
-/
import Std.Data.String.ToNat
import Gk.WorldCron
import Gk.Proofs.Cron
namespace Gk

def tidOf (k : Nat) : String := "#" ++ toString k

theorem WTask.tid_eq (w : WTask) : w.tid = tidOf w.rank := rfl

theorem tidOf_inj {a b : Nat} (h : tidOf a = tidOf b) : a = b :=
  Nat.repr_injective ((String.append_right_inj "#").mp h)

theorem tidOf_ne_empty (k : Nat) : tidOf k ≠ "" := by
  intro h
  have := congrArg String.length h
  simp [tidOf] at this

@[simp] theorem WTask.out_id (w : WTask) : w.out.id = w.tid := rfl
@[simp] theorem WTask.out_scheduledAt (w : WTask) : w.out.scheduledAt = w.task.scheduledAt := rfl
@[simp] theorem WTask.out_state (w : WTask) : w.out.state = w.task.state := rfl

namespace VRepo

theorem find_filter (l : List (String × Task)) (id id' : String) :
    (l.filter (·.1 != id)).find? (·.1 == id') = if id' = id then none else l.find? (·.1 == id') := by
  rw [List.find?_filter]
  split
  next e => subst e; simp
  next e =>
    congr 1; funext x
    by_cases h : x.1 = id' <;> simp [h, e]

theorem lookup_put (v : VRepo) (id id' : String) (x : Task) :
    (v.put id x).lookup id' = if id' = id then some x else v.lookup id' := by
  unfold lookup put
  rw [List.find?_append, find_filter]
  split
  next e => simp [e]
  next e =>
    have : (id == id') = false := beq_false_of_ne fun h => e h.symm
    simp [this]

@[simp] theorem lookup_cron (v : VRepo) (c : Cron) (id : String) :
    ({ v with cron := c } : VRepo).lookup id = v.lookup id := rfl
@[simp] theorem put_cron (v : VRepo) (id : String) (x : Task) : (v.put id x).cron = v.cron := rfl
@[simp] theorem del_cron (v : VRepo) (id : String) : (v.del id).cron = v.cron := rfl

theorem lookup_del_some {v : VRepo} {id id' : String} {x : Task} (h : (v.del id).lookup id' = some x) :
    v.lookup id' = some x := by
  rw [lookup, del, find_filter] at h
  split at h
  · cases h
  · exact h

/-- `MarkAsDispatched` after the Peek named `t`: `Pop`, then mark the record -/
def popV (v : VRepo) (t : Task) : VRepo :=
  let v1 : VRepo := { v with cron := v.cron.pop.1 }
  match v1.lookup t.id with
  | some r => v1.put t.id { r with state := .dispatched }
  | none => v1

theorem popV_cron (v : VRepo) (t : Task) : (v.popV t).cron = v.cron.pop.1 := by
  unfold popV
  dsimp only
  split <;> rfl

theorem popV_lookup (v : VRepo) (t : Task) (id : String) :
    (v.popV t).lookup id =
      if id = t.id then (v.lookup t.id).map (fun r => { r with state := .dispatched }) else v.lookup id := by
  unfold popV
  simp only [lookup_cron]
  cases h : v.lookup t.id with
  | none =>
    rw [lookup_cron]
    split
    next e => rw [e, h]; rfl
    · rfl
  | some r => rw [lookup_put, lookup_cron]; rfl

end VRepo

namespace CWorld

/-- the task copy a program counter carries after the due check -/
def heldPc : CPc → Option Task
  | .d_wait t _ | .d_mark t | .d_markPop t | .d_markRet t _ | .d_get t | .r_getById t => some t
  | _ => none

/-- the task copy a program counter carries between `GetNext`'s Peek and the due check -/
def prePc : CPc → Option Task
  | .s_getNextRet (some t) | .s_nextSched t => some t
  | _ => none

/-- program counters at which the record stored under the carried id (if any) is in state dispatched -/
def dispPc : CPc → Option Task
  | .d_wait t true | .d_markRet t none | .d_get t => some t
  | _ => none

/-- the program counters that can be visited while a task is remembered in `lastTask` -/
def quietPc : CPc → Bool
  | .idle | .s_lastErr0 | .s_stop | .s_start | .s_lastErr1 | .r_stop | .r_start | .r_lastErr
  | .r_markDone _ _ => true
  | _ => false

def isDE : SS → Bool
  | .dispatchErr _ _ => true
  | _ => false

/-- `t` is a copy the scheduler holds after the due check: remembered, carried by the program counter, or
returned in a `DispatchErr` state awaiting `Retry` -/
def Holds (pc : CPc) (lt : Option Task) (ret : SS) (t : Task) : Prop :=
  lt = some t ∨ heldPc pc = some t ∨ (pc = .idle ∧ ∃ e, ret = .dispatchErr t e)

/-- what a transition guarantees about the control state (`pc`, `lastTask`, `ret`) it moves to; `v'` is the record
map it leaves behind -/
structure CtlOk (w : CWorld) (v' : VRepo) (pc' : CPc) (lt' : Option Task) (ret' : SS) : Prop where
  held : ∀ t, Holds pc' lt' ret' t → Holds w.pc w.lastTask w.ret t ∨ t = World.zeroTask ∨
    (w.pc = .s_nextSched t ∧ (w.fix.dueCheck = true → t.scheduledAt ≤ w.now))
  pre : ∀ t, prePc pc' = some t → prePc w.pc = some t
  disp : ∀ t, dispPc pc' = some t → dispPc w.pc = some t ∨
    (w.fix.retryMarks = true → ∀ cur, v'.lookup t.id = some cur → cur.state = .dispatched)
  markPop : ∀ t, pc' = .d_markPop t → w.pc = .d_markPop t ∨ ∃ h, w.v.cron.head = some h ∧ h.tid = t.id
  quiet : (w.lastTask.isSome → quietPc w.pc = true ∧ isDE w.ret = false) →
    lt'.isSome → quietPc pc' = true ∧ isDE ret' = false

theorem CtlOk.refl (w : CWorld) (v' : VRepo) : CtlOk w v' w.pc w.lastTask w.ret :=
  ⟨fun _ h => .inl h, fun _ h => h, fun _ h => .inl h, fun _ h => .inl h, fun h => h⟩

/-- one action of the automaton, on the fields the invariants speak about -/
inductive CStep (w : CWorld) : Bool → CWorld → Prop
  /-- the control state moves; records are kept or forgotten; of the cron store only timer and flags change -/
  | ctl (w' : CWorld) (hfix : w'.fix = w.fix)
      (hrec : ∀ id x, w'.v.lookup id = some x → w.v.lookup id = some x)
      (hpend : w'.v.cron.pending = w.v.cron.pending) (hcnt : w'.v.cron.counter = w.v.cron.counter)
      (hfixed : w'.v.cron.fixed = w.v.cron.fixed) (hnow : w.now ≤ w'.now)
      (hlog : w'.log = w.log) (hpop : w'.popped = w.popped)
      (hok : CtlOk w w'.v w'.pc w'.lastTask w'.ret) : CStep w false w'
  | edit (w' : CWorld) (a r : List String) (hfix : w'.fix = w.fix)
      (hv : w'.v = { w.v with cron := (w.v.cron.editTask a r).1 })
      (hlog : w'.log = w.log) (hpop : w'.popped = w.popped) (hlt : w'.lastTask = w.lastTask)
      (hret : w'.ret = w.ret) (hpc : w'.pc = w.pc) : CStep w true w'
  | peekSome (w' : CWorld) (h : WTask) (hpc : w.pc = .s_getNext) (hh : w.v.cron.head = some h)
      (hfix : w'.fix = w.fix) (hv : w'.v = w.v.put h.tid h.out)
      (hlog : w'.log = w.log) (hpop : w'.popped = w.popped) (hlt : w'.lastTask = w.lastTask)
      (hret : w'.ret = w.ret) (hpc' : w'.pc = .s_getNextRet (some h.out)) : CStep w false w'
  | pop (w' : CWorld) (t : Task) (h : WTask) (hpc : w.pc = .d_markPop t) (hh : w.v.cron.head = some h)
      (hfix : w'.fix = w.fix) (hv : w'.v = w.v.popV t)
      (hlog : w'.log = w.log) (hpop : w'.popped = w.popped ++ [h.tid]) (hlt : w'.lastTask = w.lastTask)
      (hret : w'.ret = w.ret) (hpc' : w'.pc = .d_markRet t none) : CStep w false w'
  | log (w' : CWorld) (t cur : Task) (hpc : w.pc = .d_get t) (hl : w.v.lookup t.id = some cur)
      (hfix : w'.fix = w.fix) (hv : w'.v = w.v)
      (hlog : w'.log = w.log ++ [({ id := t.id, at_ := w.now, task := cur } : RunEntry)])
      (hpop : w'.popped = w.popped) (hlt : w'.lastTask = w.lastTask)
      (hret : w'.ret = .dispatched t.id) (hpc' : w'.pc = .idle) : CStep w false w'

/-- `ctl` for a world written as an update of `w`: the frame conditions hold by construction -/
theorem CStep.move {w : CWorld} {p : CPc} {lt : Option Task} {s : SS} {g cd st : Bool}
    {run : List (String × Task)} {comp rep : List (String × Outcome)} (hok : CtlOk w w.v p lt s) :
    CStep w false { w with lastTask := lt, getNextErr := g, pc := p, running := run, completed := comp,
                           reported := rep, ret := s, ctxDone := cd, stuck := st } :=
  .ctl _ rfl (fun _ _ h => h) rfl rfl rfl (Int.le_refl _) rfl rfl hok

theorem CStep.moveDel {w : CWorld} {p : CPc} {lt : Option Task} {s : SS} {g : Bool} (id : String)
    (hok : CtlOk w (w.v.del id) p lt s) :
    CStep w false { w with v := w.v.del id, lastTask := lt, getNextErr := g, pc := p, ret := s } :=
  .ctl _ rfl (fun _ _ h => VRepo.lookup_del_some h) rfl rfl rfl (Int.le_refl _) rfl rfl hok

theorem dispPc_held {p : CPc} {t : Task} (h : dispPc p = some t) : heldPc p = some t := by
  unfold dispPc at h
  split at h <;> simp_all [heldPc]

theorem held_not_quiet {p : CPc} {t : Task} (h : heldPc p = some t) : quietPc p = false := by
  cases p <;> first | rfl | cases h

namespace CtlOk
variable {w : CWorld} {v' : VRepo}

/-- to a program counter that holds no task after the due check; `lastTask` and `ret` stay -/
theorem goto {p : CPc} (hh : heldPc p = none) (hi : p ≠ .idle)
    (hpre : prePc p = none ∨ prePc p = prePc w.pc)
    (hq : w.lastTask.isSome → quietPc w.pc = true → quietPc p = true) : CtlOk w v' p w.lastTask w.ret where
  held t h := by
    rcases h with h | h | ⟨h, _⟩
    · exact .inl (.inl h)
    · rw [hh] at h; cases h
    · exact absurd h hi
  pre t h := by
    rcases hpre with e | e <;> rw [e] at h
    · cases h
    · exact h
  disp t h := by have := dispPc_held h; rw [hh] at this; cases this
  markPop t h := by rw [h] at hh; cases hh
  quiet hI hl := ⟨hq hl (hI hl).1, (hI hl).2⟩

/-- `Step` / `Retry` return with a state other than `DispatchErr`; a task newly remembered is the one the due
check was made for -/
theorem fin {lt : Option Task} {s : SS} (hs : isDE s = false)
    (hlt : ∀ t, lt = some t → w.lastTask = some t ∨
      (w.pc = .s_nextSched t ∧ (w.fix.dueCheck = true → t.scheduledAt ≤ w.now))) :
    CtlOk w v' .idle lt s where
  held t h := by
    rcases h with h | h | ⟨_, e, h⟩
    · exact (hlt t h).imp (fun h => .inl h) (fun h => .inr h)
    · cases h
    · rw [h] at hs; cases hs
  pre t h := nomatch h
  disp t h := nomatch h
  markPop t h := nomatch h
  quiet _ _ := ⟨rfl, hs⟩

/-- `dispatchTask` / `Retry` give up on the task the program counter carries -/
theorem derr {t : Task} {e : Err} (ht : heldPc w.pc = some t) :
    CtlOk w v' .idle w.lastTask (.dispatchErr t e) where
  held t' h := by
    rcases h with h | h | ⟨_, e', h⟩
    · exact .inl (.inl h)
    · cases h
    · cases h; exact .inl (.inr (.inl ht))
  pre t h := nomatch h
  disp t h := nomatch h
  markPop t h := nomatch h
  quiet hI hl := by rw [held_not_quiet ht] at hI; cases (hI hl).1

/-- the carried task (or, after a `Retry` that found no record, the zero task) moves on with the program
counter -/
theorem carry {p : CPc} {t : Task} (hw : quietPc w.pc = false) (hp : heldPc p = some t)
    (ht : heldPc w.pc = some t ∨ t = World.zeroTask) (hpre : prePc p = none)
    (hd : dispPc p = some t → dispPc w.pc = some t ∨
      (w.fix.retryMarks = true → ∀ cur, v'.lookup t.id = some cur → cur.state = .dispatched))
    (hm : p = .d_markPop t → w.pc = .d_markPop t ∨ ∃ h, w.v.cron.head = some h ∧ h.tid = t.id) :
    CtlOk w v' p w.lastTask w.ret where
  held t' h := by
    rcases h with h | h | ⟨rfl, _⟩
    · exact .inl (.inl h)
    · rw [hp] at h; cases h
      exact ht.imp (fun h => .inr (.inl h)) .inl
    · cases hp
  pre t' h := by rw [hpre] at h; cases h
  disp t' h := by
    have := dispPc_held h
    rw [hp] at this; cases this
    exact hd h
  markPop t' h := by
    subst h
    cases hp
    exact hm rfl
  quiet hI hl := by rw [hw] at hI; cases (hI hl).1

/-- the program counter takes over a task the scheduler already held (remembered, or returned in a
`DispatchErr`) -/
theorem take {p : CPc} {t : Task} {lt : Option Task} (hp : heldPc p = some t)
    (ht : Holds w.pc w.lastTask w.ret t) (hpre : prePc p = none) (hd : dispPc p = none)
    (hm : ∀ t', p ≠ .d_markPop t') (hlt : lt = none ∨ (lt = w.lastTask ∧ isDE w.ret = true)) :
    CtlOk w v' p lt w.ret where
  held t' h := by
    rcases h with h | h | ⟨rfl, _⟩
    · rcases hlt with rfl | ⟨rfl, _⟩
      · cases h
      · exact .inl (.inl h)
    · rw [hp] at h; cases h; exact .inl ht
    · cases hp
  pre t' h := by rw [hpre] at h; cases h
  disp t' h := by rw [hd] at h; cases h
  markPop t' h := absurd h (hm t')
  quiet hI hl := by
    rcases hlt with rfl | ⟨rfl, h⟩
    · cases hl
    · rw [(hI hl).2] at h; cases h

end CtlOk

theorem afterPrologue_spec (w : CWorld) : CStep w false w.afterPrologue := by
  unfold afterPrologue
  dsimp only
  split
  next t ht => exact .move (.take rfl (.inl ht) rfl rfl (fun _ => nofun) (.inl rfl))
  next ht =>
    exact .move (.goto rfl nofun (.inl rfl) (by rw [ht]; nofun))

/-- a timer operation on the way to a program counter that carries nothing -/
theorem CStep.timer {w : CWorld} {p : CPc} (c' : Cron) (hh : heldPc p = none) (hi : p ≠ .idle)
    (hpre : prePc p = none) (hq : quietPc w.pc = true → quietPc p = true)
    (hpend : c'.pending = w.v.cron.pending) (hcnt : c'.counter = w.v.cron.counter)
    (hfixed : c'.fixed = w.v.cron.fixed) (hnow : c'.clock.now = w.v.cron.clock.now) :
    CStep w false { w.setCron c' with pc := p } :=
  .ctl _ rfl (fun _ _ h => h) hpend hcnt hfixed (by show w.v.cron.clock.now ≤ c'.clock.now; rw [hnow]; exact Int.le_refl _)
    rfl rfl (.goto hh hi (.inl hpre) fun _ => hq)

theorem sched_spec (w : CWorld) (a : SActC) : CStep w false (w.sched a).1 := by
  -- with `w` a record literal `split` substitutes the program counter: side conditions on it are `rfl`
  obtain ⟨fix, v, lt, gne, pc, running, completed, log, popped, reported, ret, ctxDone, stuck⟩ := w
  unfold CWorld.sched
  dsimp only
  split
  next => exact .move (.refl _ _)
  next => -- idle, beginStep
    split <;> exact .move (.goto rfl nofun (.inl rfl) fun _ _ => rfl)
  next => exact afterPrologue_spec _
  next => exact .timer _ rfl nofun rfl (fun _ => rfl) rfl rfl rfl (Cron.stopTimer_now _)
  next =>
    exact .timer _ rfl nofun rfl (fun _ => rfl) (by simp [Cron.startTimer])
      (by simp [Cron.startTimer]) (by simp [Cron.startTimer]) (Cron.startTimer_now _)
  next => exact afterPrologue_spec _
  next => exact .move (.fin rfl fun _ => .inl)
  next => -- s_select, selTimer
    unfold Clock.consume
    dsimp only
    split
    · exact .timer { v.cron with clock := { v.cron.clock with pending := false } }
        rfl nofun rfl nofun rfl rfl rfl rfl
    · exact .move (.refl _ _)
  next id => -- s_select, selResult
    split
    · exact .move (.refl _ _)
    · split
      · exact .move (.fin rfl fun _ => .inl)
      · exact .move (.goto rfl nofun (.inl rfl) fun _ => nofun)
  next => exact .move (.fin rfl fun _ => nofun)
  next => -- s_getNext, peek
    unfold VRepo.peek
    cases hh : v.cron.head with
    | none => exact .move (.goto rfl nofun (.inl rfl) fun _ => nofun)
    | some h => exact .peekSome _ h rfl hh rfl rfl rfl rfl rfl rfl rfl
  next r f => -- s_getNextRet, getNext
    split
    · exact .move (.fin rfl fun _ => nofun)
    · split
      · exact .move (.fin rfl fun _ => nofun)
      · exact .move (.goto rfl nofun (.inr rfl) fun _ => nofun)
  next t => -- s_nextSched, nextScheduled
    split
    · exact .move (.fin rfl fun _ => .inl)
    next hc =>
      refine .move (.fin rfl fun t' h => .inr ?_)
      cases h
      refine ⟨rfl, fun (hd : fix.dueCheck = true) => ?_⟩
      simp only [hd, Bool.not_true, Bool.false_or, Bool.or_eq_true, Bool.not_eq_true', not_or,
        Bool.not_eq_true, decide_eq_false_iff_not, Decidable.not_not] at hc
      exact hc.2
  next id o f => -- s_markDone, markDone
    split
    · exact .move (.fin rfl fun _ => .inl)
    · exact .moveDel id (.fin rfl fun _ => .inl)
  next t retry acq => -- d_wait, waitWorker
    split
    · exact .move (.derr rfl)
    · split
      next h => subst h; exact .move (.carry rfl rfl (.inl rfl) rfl .inl nofun)
      · exact .move (.carry rfl rfl (.inl rfl) rfl nofun nofun)
  next t => exact .move (.derr rfl)
  next t => -- d_mark, peek
    unfold VRepo.peek
    cases hh : v.cron.head with
    | none => exact .move (.carry rfl rfl (.inl rfl) rfl nofun nofun)
    | some h =>
      dsimp only [Option.map_some]
      split
      next h1 =>
        exact .move (.carry rfl rfl (.inl rfl) rfl nofun fun _ => .inr ⟨h, hh, eq_of_beq h1⟩)
      · split
        · exact .moveDel t.id (.carry rfl rfl (.inl rfl) rfl nofun nofun)
        next h2 =>
          refine .move (.carry rfl rfl (.inl rfl) rfl (fun _ => .inr fun _ cur hl => ?_) nofun)
          rw [show v.lookup t.id = some cur from hl] at h2
          exact absurd rfl h2
  next t => -- d_markPop, pop
    cases hh : v.cron.head with
    | none => exact .move (.carry rfl rfl (.inl rfl) rfl nofun nofun)
    | some h => exact .pop _ t h rfl hh rfl rfl rfl rfl rfl rfl rfl
  next t e f => -- d_markRet, markDispatched
    split
    · exact .move (.derr rfl)
    next heq =>
      have he : e = none := by
        split at heq
        · cases heq
        · exact heq
      subst he
      exact .move (.carry rfl rfl (.inl rfl) rfl .inl nofun)
  next t f => -- d_get, getById
    split
    · exact .move (.derr rfl)
    · split
      · exact .move (.derr rfl)
      next cur hl => exact .log _ t cur rfl hl rfl rfl rfl rfl rfl rfl rfl
  next => -- idle, beginRetry
    split
    · exact .move (.goto rfl nofun (.inl rfl) fun _ _ => rfl)
    next _ t e => exact .move (.take rfl (.inr (.inr ⟨rfl, e, rfl⟩)) rfl rfl (fun _ => nofun) (.inr ⟨rfl, rfl⟩))
    · exact .move (.goto rfl nofun (.inl rfl) fun _ _ => rfl)
    · exact .move (.fin rfl fun _ => .inl)
  next => exact .timer _ rfl nofun rfl (fun _ => rfl) rfl rfl rfl (Cron.stopTimer_now _)
  next =>
    exact .timer _ rfl nofun rfl (fun _ => rfl) (by simp [Cron.startTimer])
      (by simp [Cron.startTimer]) (by simp [Cron.startTimer]) (Cron.startTimer_now _)
  next => exact .move (.fin rfl fun _ => .inl)
  next t f => -- r_getById, getById
    split
    · exact .move (.derr rfl)
    · split
      · exact .move (.carry rfl rfl (.inr rfl) rfl
            (fun hd => .inr fun (hr : fix.retryMarks = true) => by rw [hr] at hd; cases hd) nofun)
      next cur hl =>
        -- `d_wait t true` (marking is skipped) only if the record read is in state dispatched
        refine .move (.carry rfl rfl (.inl rfl) rfl (fun hd => .inr fun (hr : fix.retryMarks = true) cur' hl' => ?_) nofun)
        cases hl.symm.trans hl'
        rw [if_pos hr] at hd
        cases hs : cur.state == St.dispatched <;> rw [hs] at hd
        · cases hd
        · exact eq_of_beq hs
  next id o f => -- r_markDone, markDone
    split
    · exact .move (.fin rfl fun _ => .inl)
    · split <;> exact .moveDel id (.fin rfl fun _ => .inl)
  next => exact .move (.refl _ _)

def _root_.Gk.ActC.isEdit : ActC → Bool
  | .edit _ _ => true
  | _ => false

/-- an action that is not an `EditTask` landing between volatileTaskRepo's Peek and Pop -/
def atomicOk (w : CWorld) (a : ActC) : Bool :=
  !a.isEdit || match w.pc with
    | .d_markPop _ => false
    | _ => true

theorem step_spec (w : CWorld) (a : ActC) : CStep w a.isEdit (w.step a) := by
  cases a with
  | sched a => exact sched_spec w a
  | edit a r => exact .edit _ a r rfl rfl rfl rfl rfl rfl rfl
  | advance t =>
    exact .ctl _ rfl (fun _ _ h => h) rfl rfl rfl (Clock.advance_now _ _) rfl rfl (.refl _ _)
  | complete id o =>
    simp only [CWorld.step]
    split <;> exact .move (.refl _ _)

theorem run_nil (w : CWorld) : w.run [] = w := rfl
theorem run_cons (w : CWorld) (a : ActC) (rest : List ActC) : w.run (a :: rest) = (w.step a).run rest := rfl
theorem run_append (w : CWorld) (xs ys : List ActC) : w.run (xs ++ ys) = (w.run xs).run ys := by
  simp [CWorld.run, List.foldl_append]

structure InvA (w : CWorld) : Prop where
  fixed : w.v.cron.fixed = true
  fix : w.fix = {}
  noEmpty : w.v.lookup "" = none
  quiet : w.lastTask.isSome → quietPc w.pc = true ∧ isDE w.ret = false
  due : ∀ t, Holds w.pc w.lastTask w.ret t →
    ∀ cur, w.v.lookup t.id = some cur → cur.scheduledAt ≤ w.v.cron.clock.now
  pre : ∀ t, prePc w.pc = some t → ∀ cur, w.v.lookup t.id = some cur → cur.scheduledAt = t.scheduledAt
  disp : ∀ t, dispPc w.pc = some t → ∀ cur, w.v.lookup t.id = some cur → cur.state = .dispatched
  early : ∀ e ∈ w.log, e.task.scheduledAt ≤ e.at_
  dispLog : ∀ e ∈ w.log, e.task.state = .dispatched

theorem InvA.last_none {w : CWorld} (hI : InvA w) (h : quietPc w.pc = false) : w.lastTask = none := by
  cases hl : w.lastTask with
  | none => rfl
  | some t => rw [(hI.quiet (by rw [hl]; rfl)).1] at h; cases h

theorem CStep.log_cases {w w' : CWorld} {e : Bool} (hs : CStep w e w') :
    w'.log = w.log ∨ ∃ t cur, w.pc = .d_get t ∧ w.v.lookup t.id = some cur ∧
      w'.log = w.log ++ [({ id := t.id, at_ := w.now, task := cur } : RunEntry)] := by
  cases hs with
  | log _ t cur hpc hl _ _ hlog => exact .inr ⟨t, cur, hpc, hl, hlog⟩
  | _ => exact .inl (by assumption)

theorem InvA.ctl_gen {w w' : CWorld} (hI : InvA w) (hfix : w'.fix = w.fix)
    (hfixed : w'.v.cron.fixed = true) (hnow : w.now ≤ w'.now)
    (hrec : ∀ id x, w'.v.lookup id = some x → ∃ y, w.v.lookup id = some y ∧
      y.scheduledAt = x.scheduledAt ∧ (y.state = .dispatched → x.state = .dispatched))
    (hE : ∀ e ∈ w'.log, e.task.scheduledAt ≤ e.at_) (hL : ∀ e ∈ w'.log, e.task.state = .dispatched)
    (hok : CtlOk w w'.v w'.pc w'.lastTask w'.ret) : InvA w' := by
  refine ⟨hfixed, hfix.trans hI.fix, ?_, hok.quiet hI.quiet, fun t ht cur hc => ?_, fun t ht cur hc => ?_,
    fun t ht cur hc => ?_, hE, hL⟩
  · cases h : w'.v.lookup "" with
    | none => rfl
    | some x => obtain ⟨y, hy, _⟩ := hrec _ _ h; rw [hI.noEmpty] at hy; cases hy
  · obtain ⟨y, hy, hs, _⟩ := hrec _ _ hc
    have hnow : w.v.cron.clock.now ≤ w'.v.cron.clock.now := hnow
    rw [← hs]
    rcases hok.held t ht with h | h | h
    · have := hI.due t h y hy
      tomega
    · subst h
      rw [show World.zeroTask.id = "" from rfl, hI.noEmpty] at hy
      cases hy
    · have h1 := hI.pre t (by rw [h.1]; rfl) y hy
      have h2 : t.scheduledAt ≤ w.v.cron.clock.now := h.2 (by rw [hI.fix])
      tomega
  · obtain ⟨y, hy, hs, _⟩ := hrec _ _ hc
    exact hs.symm.trans (hI.pre t (hok.pre t ht) y hy)
  · rcases hok.disp t ht with h | h
    · obtain ⟨y, hy, _, hd⟩ := hrec _ _ hc
      exact hd (hI.disp t h y hy)
    · exact h (by rw [hI.fix]) cur hc

theorem InvA_step {w w' : CWorld} {e : Bool} (hs : CStep w e w') (hI : InvA w) : InvA w' := by
  have hlog : (∀ e ∈ w'.log, e.task.scheduledAt ≤ e.at_) ∧ ∀ e ∈ w'.log, e.task.state = .dispatched := by
    rcases hs.log_cases with h | ⟨t, cur, hpc, hl, h⟩ <;> rw [h]
    · exact ⟨hI.early, hI.dispLog⟩
    · simp only [List.mem_append, List.mem_singleton]
      exact ⟨fun e he => he.elim (hI.early e) fun he => he ▸ hI.due t (.inr (.inl (by rw [hpc]; rfl))) cur hl,
        fun e he => he.elim (hI.dispLog e) fun he => he ▸ hI.disp t (by rw [hpc]; rfl) cur hl⟩
  have same : ∀ {v : VRepo} (id x), v.lookup id = some x → ∃ y, v.lookup id = some y ∧
      y.scheduledAt = x.scheduledAt ∧ (y.state = .dispatched → x.state = .dispatched) :=
    fun _ x h => ⟨x, h, rfl, fun h => h⟩
  cases hs with
  | ctl _ hfix hrec hpend hcnt hfixed hnow _ hpop hok =>
    exact hI.ctl_gen hfix (hfixed.trans hI.fixed) hnow (fun id x h => same id x (hrec id x h)) hlog.1 hlog.2 hok
  | edit _ a r hfix hv _ hpop hlt hret hpc =>
    refine hI.ctl_gen hfix (by rw [hv]; exact Cron.step_fixed hI.fixed (.edit a r)) ?_
      (fun id x h => same id x (by rw [hv] at h; exact h)) hlog.1 hlog.2
      (by rw [hpc, hlt, hret]; exact .refl _ _)
    show w.v.cron.clock.now ≤ w'.v.cron.clock.now
    rw [hv, Cron.editTask_now hI.fixed]
    exact Int.le_refl _
  | log _ t cur hpc hl hfix hv _ hpop hlt hret hpc' =>
    exact hI.ctl_gen hfix (by rw [hv]; exact hI.fixed) (by rw [CWorld.now, CWorld.now, hv]; exact Int.le_refl _)
      (fun id x h => same id x (by rw [hv] at h; exact h)) hlog.1 hlog.2
      (by rw [hpc', hlt, hret]; exact .fin rfl fun _ => .inl)
  | pop _ t h hpc hh hfix hv _ hpop hlt hret hpc' =>
    -- the record of the carried task is marked dispatched, every other record stays
    have hrec : ∀ id x, w'.v.lookup id = some x → ∃ y, w.v.lookup id = some y ∧
        y.scheduledAt = x.scheduledAt ∧ (y.state = .dispatched → x.state = .dispatched) ∧
        (id = t.id → x.state = .dispatched) := by
      intro id x hx
      rw [hv, VRepo.popV_lookup] at hx
      split at hx
      next e =>
        obtain ⟨r, hr, rfl⟩ := Option.map_eq_some_iff.mp hx
        exact ⟨r, e ▸ hr, rfl, fun _ => rfl, fun _ => rfl⟩
      next e => exact ⟨x, hx, rfl, fun h => h, fun e' => absurd e' e⟩
    refine hI.ctl_gen hfix (by rw [hv, VRepo.popV_cron]; exact Cron.step_fixed hI.fixed .pop)
      (by rw [CWorld.now, CWorld.now, hv, VRepo.popV_cron, Cron.pop_now]; exact Int.le_refl _)
      (fun id x hx => let ⟨y, a, b, c, _⟩ := hrec id x hx; ⟨y, a, b, c⟩) hlog.1 hlog.2 ?_
    rw [hpc', hlt, hret]
    exact .carry (by rw [hpc]; rfl) rfl (.inl (by rw [hpc]; rfl)) rfl
      (fun _ => .inr fun _ cur hc => (hrec _ _ hc).choose_spec.2.2.2 rfl) nofun
  | peekSome _ h hpc hh hfix hv _ hpop hlt hret hpc' =>
    -- nothing is held at `s_getNext`; the record just stored is a copy of the head
    have hlt0 := hI.last_none (by rw [hpc]; rfl)
    refine ⟨by rw [hv]; exact hI.fixed, hfix.trans hI.fix, ?_, by rw [hlt, hlt0]; nofun, fun t ht => ?_,
      fun t ht cur hcur => ?_, fun t ht => ?_, hlog.1, hlog.2⟩
    · rw [hv, VRepo.lookup_put, if_neg (fun e => tidOf_ne_empty _ e.symm)]
      exact hI.noEmpty
    · rw [hlt, hlt0, hpc'] at ht
      rcases ht with ht | ht | ⟨ht, _⟩ <;> cases ht
    · rw [hpc'] at ht
      cases ht
      rw [hv, VRepo.lookup_put, if_pos (WTask.out_id h)] at hcur
      cases hcur
      rfl
    · rw [hpc'] at ht
      cases ht

theorem InvA_run {w : CWorld} (hI : InvA w) (acts : List ActC) : InvA (w.run acts) :=
  List.foldlRecOn acts CWorld.step hI fun w hw a _ => InvA_step (step_spec w a) hw

structure InvC (w : CWorld) : Prop where
  fixed : w.v.cron.fixed = true
  ranks : (w.v.cron.pending.map (·.rank)).Nodup
  rankLe : ∀ p ∈ w.v.cron.pending, p.rank ≤ w.v.cron.counter
  pendSched : ∀ p ∈ w.v.cron.pending, p.task.state = .scheduled
  popTid : ∀ id ∈ w.popped, ∃ k, k ≤ w.v.cron.counter ∧ id = tidOf k
  popPend : ∀ id ∈ w.popped, ∀ p ∈ w.v.cron.pending, p.tid ≠ id
  popNodup : w.popped.Nodup

theorem InvC.of_same {w w' : CWorld} (h : InvC w) (h1 : w'.v.cron.fixed = w.v.cron.fixed)
    (h2 : w'.v.cron.pending = w.v.cron.pending) (h3 : w'.v.cron.counter = w.v.cron.counter)
    (h4 : w'.popped = w.popped) : InvC w' :=
  ⟨h1.trans h.fixed, by rw [h2]; exact h.ranks, by rw [h2, h3]; exact h.rankLe, by rw [h2]; exact h.pendSched,
    by rw [h3, h4]; exact h.popTid, by rw [h2, h4]; exact h.popPend, by rw [h4]; exact h.popNodup⟩

theorem InvC.of_cron {w w' : CWorld} (h : InvC w) (h1 : w'.v.cron = w.v.cron)
    (h4 : w'.popped = w.popped) : InvC w' :=
  h.of_same (by rw [h1]) (by rw [h1]) (by rw [h1]) h4

/-- The pending bag drops occurrences and gains `fresh` ones with the next ranks (`Pop`, an accepted edit), while
the ids of some dropped occurrences (at most one, in fact) join the popped ids. -/
theorem InvC.grow {w w' : CWorld} (h : InvC w) (keep : WTask → Bool) {fresh : List WTask} {gone : List String}
    (hfix : w'.v.cron.fixed = w.v.cron.fixed)
    (hp : w'.v.cron.pending = w.v.cron.pending.filter keep ++ fresh)
    (hf : fresh.map (·.rank) = List.range' (w.v.cron.counter + 1) fresh.length)
    (hc : w'.v.cron.counter = w.v.cron.counter + fresh.length)
    (hs : ∀ p ∈ fresh, p.task.state = .scheduled) (hpop : w'.popped = w.popped ++ gone)
    (hgn : gone.Nodup)
    (hg : ∀ id ∈ gone, ∃ p ∈ w.v.cron.pending, id = p.tid ∧
      ∀ q ∈ w.v.cron.pending, keep q = true → q.rank ≠ p.rank) : InvC w' := by
  obtain ⟨r1, r2, r3⟩ := Cron.ranks_extend keep h.ranks h.rankLe hf
  rw [← hp] at r1 r2 r3
  refine ⟨hfix.trans h.fixed, r1, by rw [hc]; exact r2, fun q hq => ?_, ?_, ?_, ?_⟩
  · rw [hp] at hq
    exact (List.mem_append.mp hq).elim (fun hq => h.pendSched q (List.mem_filter.mp hq).1) (hs q)
  all_goals rw [hpop]
  · intro id hid
    rcases List.mem_append.mp hid with hid | hid
    · exact (h.popTid id hid).imp fun k hk => ⟨by omega, hk.2⟩
    · obtain ⟨p, hpm, rfl, _⟩ := hg id hid
      exact ⟨p.rank, by have := h.rankLe p hpm; omega, rfl⟩
  · -- a popped id is `#k` with `k` at most the old counter; occurrences handed out later rank above it
    intro id hid q hq e
    rcases List.mem_append.mp hid with hid | hid
    · rcases r3 q hq with h1 | h1
      · exact h.popPend id hid q h1.1 e
      · obtain ⟨k, hk, rfl⟩ := h.popTid id hid
        have := tidOf_inj e; omega
    · obtain ⟨p, hpm, rfl, hne⟩ := hg id hid
      have e' := tidOf_inj e
      rcases r3 q hq with h1 | h1
      · exact hne q h1.1 h1.2 e'
      · have := h.rankLe p hpm; omega
  · exact List.nodup_append.mpr ⟨h.popNodup, hgn, fun a ha b hb e => by
      obtain ⟨p, hpm, rfl, _⟩ := hg b hb
      exact h.popPend a ha p hpm e.symm⟩

theorem InvC_step {w w' : CWorld} {e : Bool} (hs : CStep w e w') (h : InvC w) : InvC w' := by
  cases hs with
  | ctl _ hfix hrec hpend hcnt hfixed hnow hlog hpop hok => exact h.of_same hfixed hpend hcnt hpop
  | peekSome _ h' hpc hh hfix hv hlog hpop hlt hret hpc' => exact h.of_cron (by rw [hv]; rfl) hpop
  | log _ t cur hpc hl hfix hv hlog hpop hlt hret hpc' => exact h.of_cron (by rw [hv]) hpop
  | edit _ a r hfix hv hlog hpop hlt hret hpc =>
    have hc : w'.v.cron = ((w.v.cron.stopTimerRaw.updateTask a r).1).resetTimer := by rw [hv]; rfl
    rcases Cron.updateTask_spec (c := w.v.cron.stopTimerRaw) h.fixed a r with ⟨_, e⟩ | ⟨_, staged, hA⟩
    · rcases e with e | e <;>
        exact h.of_same (by rw [hc, e, Cron.resetTimer_fixed]; rfl) (by rw [hc, e, Cron.resetTimer_pending]; rfl)
          (by rw [hc, e, Cron.resetTimer_counter]; rfl) hpop
    · refine h.grow _ (by rw [hc]; simpa using hA.fixed.trans h.fixed.symm)
        (by rw [hc, Cron.resetTimer_pending]; exact hA.pending) hA.fresh.1
        (by rw [hc, Cron.resetTimer_counter]; exact hA.fresh.2) (fun p hp => ?_)
        (by rw [hpop, List.append_nil]) List.nodup_nil nofun
      obtain ⟨s, hs, rfl⟩ := List.mem_map.mp hp
      obtain ⟨_, _, _, _, _, _, hw⟩ := hA.ok s hs
      exact Cron.wrap_state hw
  | pop _ t h' hpc hh hfix hv hlog hpop hlt hret hpc' =>
    have hc : w'.v.cron = (w.v.cron.popNext h').resetTimer := by rw [hv, VRepo.popV_cron, Cron.pop_some hh]
    obtain ⟨fresh, hp, hf, hcnt, hfr⟩ := Cron.popNext_shape w.v.cron h'
    exact h.grow _ (by rw [hc]; simp [(Cron.popNext_frame w.v.cron h').1])
      (by rw [hc, Cron.resetTimer_pending]; exact hp) hf (by rw [hc, Cron.resetTimer_counter]; exact hcnt)
      (fun p hp => (hfr p hp).1) hpop (List.pairwise_singleton _ _)
      fun id hid => ⟨h', Cron.head_mem hh, List.mem_singleton.mp hid, fun q _ hq => by simpa using hq⟩

theorem InvC_run {w : CWorld} (hI : InvC w) (acts : List ActC) : InvC (w.run acts) :=
  List.foldlRecOn acts CWorld.step hI fun w hw a _ => InvC_step (step_spec w a) hw

structure InvD (w : CWorld) : Prop where
  markPop : ∀ t, w.pc = .d_markPop t → ∃ h, w.v.cron.head = some h ∧ h.tid = t.id
  recDisp : ∀ id r, w.v.lookup id = some r → r.state = .dispatched → id ∈ w.popped
  logPop : ∀ e ∈ w.log, e.id ∈ w.popped
  logNodup : (w.log.map (·.id)).Nodup
  fresh : ∀ t, (Holds w.pc w.lastTask w.ret t ∨ prePc w.pc = some t) → t.id ∉ w.log.map (·.id)

theorem InvD.ctl_gen {w w' : CWorld} (hD : InvD w) (hC : InvC w)
    (hhead : ∀ t, w'.pc = .d_markPop t → w'.v.cron.head = w.v.cron.head)
    (hrec : ∀ id x, w'.v.lookup id = some x → w.v.lookup id = some x)
    (hlog : w'.log = w.log) (hpop : w'.popped = w.popped)
    (hok : CtlOk w w'.v w'.pc w'.lastTask w'.ret) : InvD w' := by
  refine ⟨fun t ht => ?_, fun id r hl hr => hpop ▸ hD.recDisp id r (hrec _ _ hl) hr,
    by rw [hlog, hpop]; exact hD.logPop, by rw [hlog]; exact hD.logNodup, fun t ht => ?_⟩
  · rw [hhead t ht]
    exact (hok.markPop t ht).elim (hD.markPop t) id
  · rw [hlog]
    rcases ht with ht | ht
    · rcases hok.held t ht with h | h | h
      · exact hD.fresh t (.inl h)
      · -- the empty id is never logged: logged ids are popped ids `#k`
        subst h
        intro hin
        obtain ⟨e, he, hid⟩ := List.mem_map.mp hin
        obtain ⟨k, _, hk⟩ := hC.popTid _ (hid ▸ hD.logPop e he)
        exact tidOf_ne_empty k hk.symm
      · exact hD.fresh t (.inr (by rw [h.1]; rfl))
    · exact hD.fresh t (.inr (hok.pre t ht))

theorem InvD_step {w w' : CWorld} {e : Bool} (hs : CStep w e w') (hA : InvA w) (hC : InvC w) (hD : InvD w)
    (hat : e = true → ∀ t, w.pc ≠ .d_markPop t) : InvD w' := by
  cases hs with
  | ctl _ hfix hrec hpend hcnt hfixed hnow hlog hpop hok =>
    exact hD.ctl_gen hC (fun _ _ => Cron.head_congr hpend) hrec hlog hpop hok
  | edit _ a r hfix hv hlog hpop hlt hret hpc =>
    exact hD.ctl_gen hC (fun t ht => absurd (hpc ▸ ht) (hat rfl t)) (by rw [hv]; exact fun _ _ h => h) hlog hpop
      (by rw [hpc, hlt, hret]; exact .refl _ _)
  | peekSome _ h hpc hh hfix hv hlog hpop hlt hret hpc' =>
    -- the record just stored is in state scheduled; its id is pending, hence neither popped nor logged
    have hmem := Cron.head_mem hh
    refine ⟨by rw [hpc']; exact fun _ h => (nomatch h), fun id r hl hr => ?_, by rw [hlog, hpop]; exact hD.logPop,
      by rw [hlog]; exact hD.logNodup, fun t ht => ?_⟩
    · rw [hpop]
      rw [hv, VRepo.lookup_put] at hl
      split at hl
      · cases hl
        rw [WTask.out_state, hC.pendSched h hmem] at hr
        cases hr
      · exact hD.recDisp id r hl hr
    · rw [hlog]
      rw [hlt, hret, hpc'] at ht
      rcases ht with (ht | ht | ⟨ht, _⟩) | ht
      · exact hD.fresh t (.inl (.inl ht))
      · cases ht
      · cases ht
      · cases ht
        intro hin
        obtain ⟨e, he, hid⟩ := List.mem_map.mp hin
        exact hC.popPend _ (hD.logPop e he) h hmem hid.symm
  | pop _ t h hpc hh hfix hv hlog hpop hlt hret hpc' =>
    -- without an edit since the Peek the popped head is the carried task, whose record is marked
    obtain ⟨h0, hh0, htid⟩ := hD.markPop t hpc
    cases hh.symm.trans hh0
    refine ⟨by rw [hpc']; exact fun _ h => (nomatch h), fun id r hl hr => ?_, fun e he => ?_,
      by rw [hlog]; exact hD.logNodup, fun t' ht => ?_⟩
    · rw [hpop]
      rw [hv, VRepo.popV_lookup] at hl
      split at hl
      next e => rw [e, ← htid]; simp
      · exact List.mem_append_left _ (hD.recDisp id r hl hr)
    · rw [hpop]
      exact List.mem_append_left _ (hD.logPop e (hlog ▸ he))
    · rw [hlog]
      rw [hlt, hret, hpc'] at ht
      rcases ht with (ht | ht | ⟨ht, _⟩) | ht
      · exact hD.fresh t' (.inl (.inl ht))
      · cases ht; exact hD.fresh t (.inl (.inr (.inl (by rw [hpc]; rfl))))
      · cases ht
      · cases ht
  | log _ t cur hpc hl hfix hv hlog hpop hlt hret hpc' =>
    -- the started task's record is dispatched, hence popped; the task was held, hence not yet logged
    have hlt0 := hA.last_none (by rw [hpc]; rfl)
    have hin := hD.recDisp t.id cur hl (hA.disp t (by rw [hpc]; rfl) cur hl)
    have hfr := hD.fresh t (.inl (.inr (.inl (by rw [hpc]; rfl))))
    refine ⟨by rw [hpc']; exact fun _ h => (nomatch h), by rw [hv, hpop]; exact hD.recDisp, ?_, ?_,
      fun t' ht => ?_⟩
    · rw [hlog, hpop]
      simp only [List.mem_append, List.mem_singleton]
      exact fun e he => he.elim (hD.logPop e) fun he => he ▸ hin
    · rw [hlog, List.map_append]
      exact nodup_concat hD.logNodup hfr
    · rw [hlt, hlt0, hret, hpc'] at ht
      rcases ht with (ht | ht | ⟨_, _, ht⟩) | ht <;> cases ht

/-- A well-formed initial world: the scheduler is idle and has done nothing yet, all repairs are on
(`fix = {}`), `volatileTaskRepo` remembers nothing, and the cron store (repaired code) holds pending
occurrences with pairwise distinct ranks, all handed out by its counter, all in state scheduled. -/
def Init (w : CWorld) : Prop :=
  w.pc = .idle ∧ w.log = [] ∧ w.running = [] ∧ w.completed = [] ∧ w.v.record = [] ∧ w.popped = [] ∧
  w.lastTask = none ∧ w.ret = .zero ∧ w.fix = {} ∧ w.v.cron.fixed = true ∧
  (w.v.cron.pending.map (·.rank)).Nodup ∧ (∀ p ∈ w.v.cron.pending, p.rank ≤ w.v.cron.counter) ∧
  (∀ p ∈ w.v.cron.pending, p.task.state = .scheduled)

instance (w : CWorld) : Decidable (Init w) := by unfold Init; infer_instance

/-- A script in which no `EditTask` is taken while `pc = d_markPop _`, i.e. between the Peek and the Pop
of `volatileTaskRepo.MarkAsDispatched`. Everything else (scheduler calls in any order, enabled or not,
faults, context cancellation, time, completions, edits at every other moment) is unrestricted. -/
def AtomicMark (w : CWorld) : List ActC → Prop
  | [] => True
  | a :: rest => w.atomicOk a = true ∧ AtomicMark (w.step a) rest

instance decAtomicMark : (w : CWorld) → (acts : List ActC) → Decidable (w.AtomicMark acts)
  | _, [] => isTrue trivial
  | w, a :: rest =>
    have := decAtomicMark (w.step a) rest
    inferInstanceAs (Decidable (w.atomicOk a = true ∧ AtomicMark (w.step a) rest))

theorem atomicMark_append {w : CWorld} {xs ys : List ActC} :
    w.AtomicMark (xs ++ ys) ↔ w.AtomicMark xs ∧ (w.run xs).AtomicMark ys := by
  induction xs generalizing w with
  | nil => simp [AtomicMark, CWorld.run]
  | cons a rest ih => simp only [List.cons_append, AtomicMark, ih, run_cons, and_assoc]

theorem InvA_init {w : CWorld} (h : Init w) : InvA w := by
  obtain ⟨hpc, hlog, _, _, hrec, _, hlt, hret, hfix, hfixed, _⟩ := h
  have hlk : ∀ id, w.v.lookup id = none := fun id => by simp [VRepo.lookup, hrec]
  refine ⟨hfixed, hfix, hlk _, by simp [hlt], ?_, ?_, ?_, by simp [hlog], by simp [hlog]⟩
  · intro t ht cur hc; rw [hlk] at hc; cases hc
  · intro t ht cur hc; rw [hlk] at hc; cases hc
  · intro t ht cur hc; rw [hlk] at hc; cases hc

theorem InvC_init {w : CWorld} (h : Init w) : InvC w := by
  obtain ⟨_, _, _, _, _, hpop, _, _, _, hfixed, hr, hle, hs⟩ := h
  exact ⟨hfixed, hr, hle, hs, by simp [hpop], by simp [hpop], by simp [hpop]⟩

theorem InvD_init {w : CWorld} (h : Init w) : InvD w := by
  obtain ⟨hpc, hlog, _, _, hrec, _, hlt, hret, _⟩ := h
  have hlk : ∀ id, w.v.lookup id = none := fun id => by simp [VRepo.lookup, hrec]
  refine ⟨by simp [hpc], ?_, by simp [hlog], by simp [hlog], by simp [hlog]⟩
  intro id r hl; rw [hlk] at hl; cases hl

theorem InvD_run {w : CWorld} (hA : InvA w) (hC : InvC w) (hD : InvD w) {acts : List ActC}
    (hs : w.AtomicMark acts) : InvD (w.run acts) := by
  induction acts generalizing w with
  | nil => exact hD
  | cons a rest ih =>
    have hsp := step_spec w a
    refine ih (InvA_step hsp hA) (InvC_step hsp hC) (InvD_step hsp hA hC hD ?_) hs.2
    intro he t hpc
    have := hs.1
    simp [atomicOk, he, hpc] at this

end CWorld
end Gk
