/-
The inductive invariant `Inv` of the observable repository (`Gk/Hook.lean`; C07): `TasksOk` of the task list and
`HookInvR`, which ties the hook's cache and the timer to the head of the repository. A re-arm establishes it whatever
the repository now is (`update_inv'`), any decision of the repaired hook keeps it provided the head stays where the
decision assumes (`act_inv`; the `isHead_*` / `head_keep_*` lemmas supply that per write), hence every step does
(`Inv_step`; a received fire through the ghost observable in which the fire is still pending). Then its consequences
`neverLate` / `stoppedSilent`, the dichotomy for an injected `GetNext` fault, and the monotone clock.
-/
import Gk.Basic
import Gk.Repo
import Gk.Hook
import Gk.Proofs.GetNext
import Gk.Proofs.HookAct
import Gk.Proofs.Task
import Gk.Proofs.RepoStep
namespace Gk

/-- Run a history of (operation, injected `GetNext` fault) pairs. -/
def Obs.run (o : Obs) : List (Obs.OOp × Option Err) → Obs
  | [] => o
  | (op, f) :: rest => Obs.run (o.step op f).1 rest

/-- What a single operation needs: ids handed to `add` are not stored yet. -/
def Obs.FreshOp (o : Obs) : Obs.OOp → Prop
  | .add id _ => ∀ t ∈ o.repo.tasks, t.id ≠ id
  | _ => True

/-- Ids handed to `add` are fresh along the whole history. -/
def Obs.FreshHist (o : Obs) : List (Obs.OOp × Option Err) → Prop
  | [] => True
  | (op, f) :: rest => o.FreshOp op ∧ Obs.FreshHist (o.step op f).1 rest

instance Obs.decFreshOp (o : Obs) (op : Obs.OOp) : Decidable (o.FreshOp op) := by
  cases op <;> unfold Obs.FreshOp <;> infer_instance

instance Obs.decFreshHist :
    (o : Obs) → (ops : List (Obs.OOp × Option Err)) → Decidable (o.FreshHist ops)
  | _, [] => isTrue trivial
  | o, (op, f) :: rest =>
    have := Obs.decFreshHist (o.step op f).1 rest
    inferInstanceAs (Decidable (o.FreshOp op ∧ Obs.FreshHist (o.step op f).1 rest))

/-- The initial state: empty repository, repaired hook logic, timer not started. -/
def Obs.init (t0 : Time) : Obs := { clock := { now := t0 } }

structure TasksOk (ts : List Task) (now : Time) : Prop where
  uniq : ∀ (i j : Nat) (a b : Task), ts[i]? = some a → ts[j]? = some b → a.id = b.id → i = j
  norm : ∀ t ∈ ts, t.scheduledAt % msNs = 0 ∧ t.createdAt % msNs = 0 ∧ t.createdAt ≤ now

theorem TasksOk.mono {ts : List Task} {now now' : Time} (h : TasksOk ts now) (hle : now ≤ now') :
    TasksOk ts now' :=
  ⟨h.uniq, fun t ht => ⟨(h.norm t ht).1, (h.norm t ht).2.1, Int.le_trans (h.norm t ht).2.2 hle⟩⟩

theorem TasksOk.nil (now : Time) : TasksOk [] now := ⟨by simp, by simp⟩

theorem uniq_iff_pairwise {ts : List Task} :
    (∀ (i j : Nat) (a b : Task), ts[i]? = some a → ts[j]? = some b → a.id = b.id → i = j) ↔
      ts.Pairwise (fun a b => a.id ≠ b.id) := by
  rw [List.pairwise_iff_getElem]
  constructor
  · intro h i j hi hj hij e
    exact absurd (h i j _ _ (List.getElem?_eq_getElem hi) (List.getElem?_eq_getElem hj) e) (Nat.ne_of_lt hij)
  · intro h i j a b hi hj e
    obtain ⟨hi', rfl⟩ := List.getElem?_eq_some_iff.1 hi
    obtain ⟨hj', rfl⟩ := List.getElem?_eq_some_iff.1 hj
    rcases Nat.lt_trichotomy i j with hlt | heq | hgt
    · exact absurd e (h i j hi' hj' hlt)
    · exact heq
    · exact absurd e.symm (h j i hj' hi' hgt)

theorem TasksOk.append {ts : List Task} {now : Time} (h : TasksOk ts now) {t : Task}
    (hfresh : ∀ a ∈ ts, a.id ≠ t.id)
    (hn : t.scheduledAt % msNs = 0 ∧ t.createdAt % msNs = 0 ∧ t.createdAt ≤ now) :
    TasksOk (ts ++ [t]) now := by
  refine ⟨uniq_iff_pairwise.2 ?_, fun a ha => ?_⟩
  · rw [List.pairwise_append]
    exact ⟨uniq_iff_pairwise.1 h.uniq, List.pairwise_singleton _ _,
      fun a ha b hb => List.mem_singleton.1 hb ▸ hfresh a ha⟩
  · rcases List.mem_append.1 ha with ha | ha
    · exact h.norm a ha
    · exact List.mem_singleton.1 ha ▸ hn

theorem TasksOk.map {ts : List Task} {now : Time} (h : TasksOk ts now) (g : Task → Task)
    (hid : ∀ t ∈ ts, (g t).id = t.id)
    (hn : ∀ t ∈ ts, (g t).scheduledAt % msNs = 0 ∧ (g t).createdAt % msNs = 0 ∧
      (g t).createdAt ≤ now) :
    TasksOk (ts.map g) now := by
  refine ⟨uniq_iff_pairwise.2 ?_, fun a ha => ?_⟩
  · rw [List.pairwise_map]
    exact (uniq_iff_pairwise.1 h.uniq).imp_of_mem fun ha hb hne => by rw [hid _ ha, hid _ hb]; exact hne
  · obtain ⟨a', ha', rfl⟩ := List.mem_map.1 ha
    exact hn a' ha'

theorem TasksOk.eq_of_id {ts : List Task} {now : Time} (h : TasksOk ts now) {a b : Task}
    (ha : a ∈ ts) (hb : b ∈ ts) (hid : a.id = b.id) : a = b := by
  obtain ⟨i, hi⟩ := List.mem_iff_getElem?.1 ha
  obtain ⟨j, hj⟩ := List.mem_iff_getElem?.1 hb
  have := h.uniq i j a b hi hj hid
  subst this
  rw [hi] at hj
  exact Option.some.inj hj

theorem TasksOk.lookup {ts : List Task} {now : Time} (h : TasksOk ts now) {t t0 : Task} {id : String}
    (hl : Repo.lookup ⟨ts⟩ id = some t0) (ht : t ∈ ts) (hid : t.id = id) : t = t0 :=
  h.eq_of_id ht (Repo.lookup_some hl).1 (hid.trans (Repo.lookup_some hl).2.symm)

theorem mem_lookup {r : Repo} {u : Task} (hu : u ∈ r.tasks) : r.lookup u.id ≠ none :=
  fun hl => Repo.lookup_none hl u hu rfl

theorem TasksOk.lookup_mem {r : Repo} {now : Time} (hok : TasksOk r.tasks now) {u : Task} (hu : u ∈ r.tasks) :
    r.lookup u.id = some u := by
  cases hl : r.lookup u.id with
  | none => exact absurd hl (mem_lookup hu)
  | some c => rw [hok.lookup hl hu rfl]

theorem isHead_map {ts : List Task} {h : Task} {i : Nat} (hi : ts[i]? = some h) (g : Task → Task)
    (hs : (g h).state = .scheduled)
    (hmin : ∀ j t, ts[j]? = some t → j ≠ i → (g t).state = .scheduled →
      ((g h).key i).less ((g t).key j) = true) :
    Repo.IsHead (ts.map g) (g h) := by
  refine ⟨i, by simp [hi], hs, ?_⟩
  intro j t' hj hst hne
  rw [List.getElem?_map] at hj
  cases hj' : ts[j]? with
  | none => simp [hj'] at hj
  | some t =>
    simp only [hj', Option.map_some, Option.some.injEq] at hj
    subst hj
    exact hmin j t hj' hne hst

/-- A task appended at the end that is not strictly before the head (ties on the creation time are
won by the older rank) does not move the head. -/
theorem isHead_append {ts : List Task} {h : Task} (hh : Repo.IsHead ts h) (t : Task)
    (hlt : (h.scheduledAt : Int) < t.scheduledAt ∨ ((h.scheduledAt : Int) = t.scheduledAt ∧
      (h.priority > t.priority ∨ (h.priority = t.priority ∧ (h.createdAt : Int) ≤ t.createdAt)))) :
    Repo.IsHead (ts ++ [t]) h := by
  obtain ⟨i, hi, hs, hmin⟩ := hh
  have hlen : i < ts.length := (List.getElem?_eq_some_iff.1 hi).1
  refine ⟨i, by rw [List.getElem?_append_left hlen]; exact hi, hs, ?_⟩
  intro j t' hj hst hne
  rw [List.getElem?_append] at hj
  split at hj
  · exact hmin j t' hj hst hne
  · rw [List.getElem?_singleton] at hj
    split at hj
    · cases hj
      rw [Key.less_iff]
      simp only [Task.key]
      tomega
    · cases hj

/-- The hook/clock part of the invariant, relative to a repository `r`. -/
structure HookInvR (r : Repo) (h : Hook) (c : Clock) : Prop where
  fixed : h.fixed = true
  clk : c.armed.isSome = true → c.pending = false
  stopped : h.started = false →
    h.cached = none ∧ h.stale = false ∧ c.armed = none ∧ c.pending = false ∧ h.timerReset = false
  errd : ∀ e, h.lastErr = some e → h.cached = none ∧ h.timerReset = false
  empty : h.started = true → h.lastErr = none → h.cached = none →
    r.getNext = none ∧ h.timerReset = false
  live : h.started = true → h.lastErr = none → ∀ c0, h.cached = some c0 → h.stale = false →
    h.timerReset = true ∧
    (∃ hd, r.getNext = some hd ∧ hd.id = c0.id ∧ hd.scheduledAt = c0.scheduledAt ∧
      hd.priority = c0.priority) ∧
    (c.pending = true ∨ c.armed = some c0.scheduledAt)
  stl : h.started = true → h.lastErr = none → ∀ c0, h.cached = some c0 → h.stale = true →
    h.timerReset = true ∧ (∃ hd, r.getNext = some hd) ∧
    (c.pending = true ∨ ∃ d, c.armed = some d ∧
      ∀ t ∈ r.tasks, t.state = .scheduled → d ≤ t.scheduledAt)

/-- The inductive invariant of C07. -/
def Inv (o : Obs) : Prop := TasksOk o.repo.tasks o.clock.now ∧ HookInvR o.repo o.hook o.clock

theorem update_inv' {o : Obs} (hfix : o.hook.fixed = true)
    (hclk : o.clock.armed.isSome = true → o.clock.pending = false)
    (hstop : o.hook.started = false → o.hook.cached = none ∧ o.hook.stale = false ∧
      o.clock.armed = none ∧ o.clock.pending = false ∧ o.hook.timerReset = false)
    (hok : TasksOk o.repo.tasks o.clock.now) (f : Option Err) : Inv (o.update f) := by
  unfold Inv Obs.update
  cases hs : o.hook.started with
  | false =>
    have ⟨a1, a2, a3, a4, a5⟩ := hstop hs
    refine ⟨hok, ⟨hfix, hclk, fun _ => ⟨a1, a2, a3, a4, a5⟩, ?_, ?_, ?_, ?_⟩⟩ <;> simp [hs]
  | true =>
    simp only [Bool.not_true, Bool.false_eq_true, ↓reduceIte, Clock.stopAndDrain_eq hclk]
    cases f with
    | some e => refine ⟨hok, ⟨hfix, ?_, ?_, ?_, ?_, ?_, ?_⟩⟩ <;> simp
    | none =>
      cases hn : o.repo.getNext with
      | none => refine ⟨hok, ⟨hfix, ?_, ?_, ?_, ?_, ?_, ?_⟩⟩ <;> simp [hn]
      | some next =>
        simp only [Clock.reset_quiet]
        split <;> refine ⟨hok, ⟨hfix, ?_, ?_, ?_, ?_, ?_, ?_⟩⟩ <;> simp [hn, hs]

theorem stopTimer_inv {o : Obs} (hfix : o.hook.fixed = true)
    (hclk : o.clock.armed.isSome = true → o.clock.pending = false)
    (hok : TasksOk o.repo.tasks o.clock.now) : Inv o.stopTimer := by
  refine ⟨by rw [Obs.stopTimer_now]; exact hok, ?_⟩
  rw [Obs.stopTimer_hook, Obs.stopTimer_clock, Clock.stopAndDrain_eq hclk]
  exact ⟨hfix, by simp, by simp, fun _ _ => ⟨rfl, rfl⟩, by simp, by simp, by simp⟩

/-- The hook decided not to re-arm and had nothing cached: fine if the repository stays empty. -/
theorem keep_none {r0 r : Repo} {hk : Hook} {c : Clock} (hI : HookInvR r0 hk c)
    (hc : hk.cached = none) (hn : r0.getNext = none → r.getNext = none) : HookInvR r hk c :=
  ⟨hI.fixed, hI.clk, hI.stopped, hI.errd,
    fun a b d => ⟨hn (hI.empty a b d).1, (hI.empty a b d).2⟩,
    fun _ _ c0 h => by simp [hc] at h, fun _ _ c0 h => by simp [hc] at h⟩

/-- Whatever the repaired hook decides keeps the invariant, if what it knows when it does not re-arm (`K`, `S` of
`Hook.Decides`) means that the head kept its identity, time and priority (`keep`), resp. that a scheduled task
remains and none is scheduled before the cached time (`markStale`). -/
theorem act_inv {r0 : Repo} {o : Obs} (hI : HookInvR r0 o.hook o.clock)
    (hok : TasksOk o.repo.tasks o.clock.now) {K S : Task → Prop} {a : Hook.Act} (hd : o.hook.Decides K S a)
    (hK : ∀ c, K c → ∀ hd, r0.getNext = some hd → hd.id = c.id → hd.scheduledAt = c.scheduledAt →
      hd.priority = c.priority →
      ∃ hd', o.repo.getNext = some hd' ∧ hd'.id = c.id ∧ hd'.scheduledAt = c.scheduledAt ∧
        hd'.priority = c.priority)
    (hS : ∀ c, S c → ∀ hd, r0.getNext = some hd → hd.id = c.id → hd.scheduledAt = c.scheduledAt →
      hd.priority = c.priority →
      (∃ hd', o.repo.getNext = some hd') ∧
        ∀ t ∈ o.repo.tasks, t.state = .scheduled → c.scheduledAt ≤ t.scheduledAt)
    (f : Option Err) : Inv (o.act a f) := by
  cases hd with
  | rearm => exact update_inv' hI.fixed hI.clk hI.stopped hok f
  | keep c hc hst hk =>
    refine (⟨hok, hI.fixed, hI.clk, hI.stopped, hI.errd, fun _ _ d => (nomatch hc.symm.trans d), ?_,
      fun _ _ _ _ d => (nomatch hst.symm.trans d)⟩ : Inv o)
    intro a b c1 hc1 _
    cases hc.symm.trans hc1
    have ⟨h1, ⟨hd, h2, h3, h4, h5⟩, h6⟩ := hI.live a b c hc hst
    exact ⟨h1, hK c hk hd h2 h3 h4 h5, h6⟩
  | markStale c hc hst hs =>
    -- the deadline still armed is the cached head's old time
    refine (⟨hok, hI.fixed, hI.clk, fun a => (nomatch hc.symm.trans (hI.stopped a).1), hI.errd,
      fun _ _ d => (nomatch hc.symm.trans d), fun _ _ _ _ d => (nomatch d), ?_⟩ :
      Inv { o with hook := { o.hook with stale := true } })
    intro a b c1 hc1 _
    cases hc.symm.trans hc1
    have ⟨h1, ⟨hd, h2, h3, h4, h5⟩, h6⟩ := hI.live a b c hc hst
    have ⟨h7, h8⟩ := hS c hs hd h2 h3 h4 h5
    exact ⟨h1, h7, h6.imp_right fun h6 => ⟨_, h6, h8⟩⟩

theorem hookAdd_inv {r0 : Repo} {o : Obs} (hI : HookInvR r0 o.hook o.clock)
    (hok0 : TasksOk r0.tasks o.clock.now) (hok : TasksOk o.repo.tasks o.clock.now)
    {id : String} {p : Param}
    (hrepo : o.repo.tasks = r0.tasks ++ [p.normalize.toTask id o.clock.now]) (f : Option Err) :
    Inv (o.act (o.hook.onAdd p) f) := by
  refine act_inv hI hok (Hook.onAdd_spec hI.fixed p) ?_ (fun _ h => h.elim) f
  intro c hlh hd hn h1 h2 h3
  refine ⟨hd, ?_, h1, h2, h3⟩
  rw [Repo.getNext_eq_some_iff] at hn ⊢
  rw [hrepo]
  apply isHead_append hn
  rw [← Bool.not_eq_true, Task.lessHook_iff rfl] at hlh
  have ⟨_, n2, n3⟩ := hok0.norm hd hn.mem
  have hcr : hd.createdAt ≤ normalize (normalize o.clock.now) :=
    le_normalize n2 (le_normalize n2 n3)
  simp only [Hook.addProbe, Param.toTask_scheduledAt, Param.toTask_priority, Param.toTask_createdAt,
    Param.normalize_scheduledAt, Param.normalize_priority, getD_map_normalize] at hlh hcr ⊢
  generalize normalize (p.scheduledAt.getD 0) = s at *
  generalize normalize (normalize o.clock.now) = cr at *
  tomega

/-- A task other than the head leaves the scheduled state, or moves later, or keeps its time and does not get a
priority as high as the head's: the head stays. -/
theorem head_keep_of_later {ts : List Task} {g : Task → Task} {id : String} {hd : Task}
    (hg : ∀ t ∈ ts, g t = t ∨ (t.id = id ∧ ((g t).state ≠ .scheduled ∨
      (t.state = .scheduled ∧ (g t).createdAt = t.createdAt ∧
        ((hd.scheduledAt : Int) < (g t).scheduledAt ∨ ((g t).scheduledAt = t.scheduledAt ∧
          ((g t).priority = t.priority ∨ (g t).priority < hd.priority)))))))
    (hh : Repo.IsHead ts hd) (hne : hd.id ≠ id) : Repo.IsHead (ts.map g) hd := by
  obtain ⟨i, hi, hs, hmin⟩ := hh
  have hgh : g hd = hd := (hg hd (List.mem_iff_getElem?.2 ⟨i, hi⟩)).resolve_right fun h => hne h.1
  have := isHead_map hi g (by rw [hgh]; exact hs) (by
    intro j t hj hji hst
    rcases hg t (List.mem_iff_getElem?.2 ⟨j, hj⟩) with h | ⟨_, h | ⟨h2, h3, h4⟩⟩
    · rw [hgh, h]
      rw [h] at hst
      exact hmin j t hj hst hji
    · exact absurd hst h
    · have := hmin j t hj h2 hji
      rw [hgh]
      rw [Key.less_iff] at this ⊢
      simp only [Task.key] at this ⊢
      tomega)
  rwa [hgh] at this

theorem head_keep_of_unschedule {ts : List Task} {g : Task → Task} {id : String} {hd : Task}
    (hg : ∀ t ∈ ts, g t = t ∨ (t.id = id ∧ (g t).state ≠ .scheduled))
    (hh : Repo.IsHead ts hd) (hne : hd.id ≠ id) : Repo.IsHead (ts.map g) hd :=
  head_keep_of_later (fun t ht => (hg t ht).imp_right fun h => ⟨h.1, .inl h.2⟩) hh hne

theorem getNext_unschedule {ts : List Task} {g : Task → Task} {id : String}
    (hg : ∀ t ∈ ts, g t = t ∨ (t.id = id ∧ (g t).state ≠ .scheduled))
    (hne : ∀ hd, Repo.getNext ⟨ts⟩ = some hd → hd.id ≠ id) :
    Repo.getNext ⟨ts.map g⟩ = Repo.getNext ⟨ts⟩ := by
  cases hn : Repo.getNext ⟨ts⟩ with
  | none =>
    rw [Repo.getNext_none_iff] at hn ⊢
    intro t' ht'
    obtain ⟨t, ht, rfl⟩ := List.mem_map.1 ht'
    rcases hg t ht with h | h
    · rw [h]; exact hn t ht
    · exact h.2
  | some hd =>
    have := hne hd hn
    rw [Repo.getNext_eq_some_iff] at hn ⊢
    exact head_keep_of_unschedule hg hn this

theorem HookInvR.of_repo {r r' : Repo} {h : Hook} {c : Clock} (hI : HookInvR r h c)
    (hn : r'.getNext = r.getNext) (hs : ∀ t ∈ r'.tasks, t.state = .scheduled → t ∈ r.tasks) :
    HookInvR r' h c := by
  refine ⟨hI.fixed, hI.clk, hI.stopped, hI.errd, ?_, ?_, ?_⟩
  · rw [hn]; exact hI.empty
  · rw [hn]; exact hI.live
  · rw [hn]
    intro a b c0 hc hst
    have ⟨x, y, z⟩ := hI.stl a b c0 hc hst
    exact ⟨x, y, z.imp_right fun ⟨d, z1, z2⟩ => ⟨d, z1, fun t ht hsc => z2 t (hs t ht hsc) hsc⟩⟩

/-- `Cancel` and `MarkAsDispatched` of a task other than the trusted cached one -/
theorem unschedule_keeps {r0 : Repo} {o : Obs} {id : String} {g : Task → Task}
    (hrepo : o.repo.tasks = r0.tasks.map g)
    (hg : ∀ t ∈ r0.tasks, g t = t ∨ (t.id = id ∧ (g t).state ≠ .scheduled)) (c : Task) (hne : c.id ≠ id)
    (hd : Task) (hn : r0.getNext = some hd) (h1 : hd.id = c.id) (h2 : hd.scheduledAt = c.scheduledAt)
    (h3 : hd.priority = c.priority) :
    ∃ hd', o.repo.getNext = some hd' ∧ hd'.id = c.id ∧ hd'.scheduledAt = c.scheduledAt ∧
      hd'.priority = c.priority := by
  refine ⟨hd, ?_, h1, h2, h3⟩
  rw [Repo.getNext_eq_some_iff] at hn ⊢
  rw [hrepo]
  exact head_keep_of_unschedule hg hn (by rw [h1]; exact hne)

theorem hookDispatch_inv {r0 : Repo} {o : Obs} (hI : HookInvR r0 o.hook o.clock)
    (hok : TasksOk o.repo.tasks o.clock.now) {id : String} {g : Task → Task}
    (hrepo : o.repo.tasks = r0.tasks.map g)
    (hg : ∀ t ∈ r0.tasks, g t = t ∨ (t.id = id ∧ (g t).state ≠ .scheduled)) (f : Option Err) :
    Inv (o.act (o.hook.onDispatch id) f) := by
  rcases Hook.onDispatch_spec hI.fixed id with ⟨hc, hk⟩ | hd
  · rw [hk]
    refine (⟨hok, keep_none hI hc fun hn => ?_⟩ : Inv o)
    have e := getNext_unschedule hg fun hd h => nomatch hn.symm.trans h
    rw [← hrepo] at e
    exact e.trans hn
  · exact act_inv hI hok hd (unschedule_keeps hrepo hg) (fun _ h => h.elim) f

theorem head_keep_same_keys {ts : List Task} {g : Task → Task} {hd : Task}
    (hg : ∀ t ∈ ts, (g t).state = t.state ∧ (g t).scheduledAt = t.scheduledAt ∧
      (g t).priority = t.priority ∧ (g t).createdAt = t.createdAt)
    (hh : Repo.IsHead ts hd) : Repo.IsHead (ts.map g) (g hd) := by
  obtain ⟨i, hi, hs, hmin⟩ := hh
  have ⟨a1, a2, a3, a4⟩ := hg hd (List.mem_iff_getElem?.2 ⟨i, hi⟩)
  refine isHead_map hi g (by rw [a1]; exact hs) ?_
  intro j t hj hji hst
  have ⟨b1, b2, b3, b4⟩ := hg t (List.mem_iff_getElem?.2 ⟨j, hj⟩)
  have := hmin j t hj (by rw [← b1]; exact hst) hji
  simp only [Task.key, a2, a3, a4, b2, b3, b4] at this ⊢
  exact this

theorem hookUpdate_inv {r0 : Repo} {o : Obs} (hI : HookInvR r0 o.hook o.clock)
    (hok0 : TasksOk r0.tasks o.clock.now) (hok : TasksOk o.repo.tasks o.clock.now)
    {id : String} {p : Param} {g : Task → Task}
    (hrepo : o.repo.tasks = r0.tasks.map g)
    (hg : ∀ t ∈ r0.tasks, g t = t ∨ (t.id = id ∧ t.state = .scheduled ∧ g t = t.update p.normalize))
    (f : Option Err) : Inv (o.act (o.hook.onUpdate id p) f) := by
  refine act_inv hI hok (Hook.onUpdate_spec hI.fixed id p) ?_ ?_ f
  · intro c hk hd hn h1 h2 h3
    rw [Repo.getNext_eq_some_iff] at hn
    split at hk
    · -- the cached task itself, neither time nor priority given: no key changes
      next hid =>
      have hkeys : ∀ t ∈ r0.tasks, (g t).state = t.state ∧ (g t).scheduledAt = t.scheduledAt ∧
          (g t).priority = t.priority ∧ (g t).createdAt = t.createdAt := by
        intro t ht
        rcases hg t ht with h | ⟨_, _, h⟩
        · rw [h]; exact ⟨rfl, rfl, rfl, rfl⟩
        · have ⟨n1, n2, _⟩ := hok0.norm t ht
          rw [h]
          simp only [Task.update_state, Task.update_scheduledAt, Task.update_priority, Task.update_createdAt,
            Param.normalize_priority, Param.normalize_scheduledAt, hk.1, hk.2, Option.map_none,
            Option.getD_none, normalize_of_mod n1, normalize_of_mod n2, and_self]
      have ⟨_, k2, k3, _⟩ := hkeys hd hn.mem
      refine ⟨g hd, ?_, ?_, by rw [k2]; exact h2, by rw [k3]; exact h3⟩
      · rw [Repo.getNext_eq_some_iff, hrepo]
        exact head_keep_same_keys hkeys hn
      · rcases hg hd hn.mem with h | ⟨_, _, h⟩ <;> rw [h] <;> exact h1
    · -- another task: it moves behind the head, or stays where it is with a priority below the head's
      next hid =>
      refine ⟨hd, ?_, h1, h2, h3⟩
      rw [Repo.getNext_eq_some_iff, hrepo]
      refine head_keep_of_later (id := id) ?_ hn (by rw [h1]; exact fun e => hid e.symm)
      intro t ht
      rcases hg t ht with h | ⟨e1, e2, h⟩
      · exact .inl h
      · have ⟨n1, n2, _⟩ := hok0.norm t ht
        refine .inr ⟨e1, .inr ⟨e2, by rw [h, Task.update_createdAt, normalize_of_mod n2], ?_⟩⟩
        rw [h, h2, h3, Task.update_scheduledAt, Task.update_priority, Param.normalize_scheduledAt,
          Param.normalize_priority]
        cases hs : p.scheduledAt with
        | some s => exact .inl (by simpa [normalize_idem] using hk.1 s hs)
        | none =>
          refine .inr ⟨normalize_of_mod n1, ?_⟩
          cases hp : p.priority with
          | none => exact .inl rfl
          | some pr => exact .inr (hk.2 hs pr hp)
  · -- the cached task moved, but not before its old place
    intro c ⟨hid, hlh⟩ hd hn h1 h2 h3
    subst hid
    have hhd := Repo.getNext_isHead hn
    constructor
    · apply Repo.getNext_isSome_of_scheduled (t := g hd)
      · rw [hrepo]; exact List.mem_map_of_mem hhd.mem
      · rcases hg hd hhd.mem with h | ⟨_, _, h⟩ <;> rw [h] <;> exact hhd.scheduled
    · intro t' ht' hs'
      rw [hrepo] at ht'
      obtain ⟨t, ht, rfl⟩ := List.mem_map.1 ht'
      rcases hg t ht with h | ⟨e1, _, h⟩
      · rw [h] at hs' ⊢
        rw [← h2]
        exact hhd.le_sched t ht hs'
      · have : t = hd := hok0.eq_of_id ht hhd.mem (by rw [e1, h1])
        subst this
        rw [h]
        have hle := Task.sched_le_of_not_lessHook rfl hlh
        simpa only [Hook.updateProbe, Param.toTask_scheduledAt, or_some_getD, Task.update_scheduledAt, ← h2]
          using hle

/-! ## What a write does to the list

`add` appends; a guarded write (`Edit`, Proofs/RepoStep) maps the list, and under `TasksOk` the only row it can change is
the one its guard looked at. `TasksOk` is kept. -/

theorem guarded_shape {r : Repo} {now : Time} (hok : TasksOk r.tasks now) (id : String) (want : St) (f : Task → Task) :
    ∃ g, (if Ent.guard r id want then r.replace id f else r).tasks = r.tasks.map g ∧
      ∀ t ∈ r.tasks, g t = t ∨ (t.id = id ∧ t.state = want ∧ g t = f t) := by
  cases hg : Ent.guard r id want
  · exact ⟨fun t => t, (List.map_id' _).symm, fun _ _ => .inl rfl⟩
  · obtain ⟨u, hl, hs⟩ := Ent.guard_eq_true.1 hg
    refine ⟨fun t => if t.id == id then f t else t, rfl, fun t ht => ?_⟩
    by_cases hid : t.id = id
    · exact .inr ⟨hid, hok.lookup hl ht hid ▸ hs, by simp [hid]⟩
    · exact .inl (by simp [hid])

theorem mutate_ok {r : Repo} {now : Time} (hok : TasksOk r.tasks now) (id : String) (f : Task → Task) :
    ∃ g : Task → Task, (Repo.mutateScheduled r id f).1.tasks = r.tasks.map g ∧
      ∀ t ∈ r.tasks, g t = t ∨ (t.id = id ∧ t.state = .scheduled ∧ g t = f t) := by
  rw [mutateScheduled_eq, apply_ite Prod.fst]
  exact guarded_shape hok id .scheduled f

theorem tasksOk_mutate {ts : List Task} {now : Time} (hok : TasksOk ts now) {fT g : Task → Task}
    (hg : ∀ t ∈ ts, g t = t ∨ g t = fT t)
    (hf : ∀ t, t.scheduledAt % msNs = 0 → t.createdAt % msNs = 0 →
      (fT t).id = t.id ∧ (fT t).scheduledAt % msNs = 0 ∧ (fT t).createdAt = t.createdAt) :
    TasksOk (ts.map g) now := by
  apply hok.map g
  · intro t ht
    have ⟨n1, n2, _⟩ := hok.norm t ht
    rcases hg t ht with h | h <;> rw [h]
    exact (hf t n1 n2).1
  · intro t ht
    have ⟨n1, n2, n3⟩ := hok.norm t ht
    rcases hg t ht with h | h <;> rw [h]
    · exact ⟨n1, n2, n3⟩
    · have ⟨_, b, c⟩ := hf t n1 n2
      exact ⟨b, by rw [c]; exact n2, by rw [c]; exact n3⟩

theorem add_shape {r : Repo} {now : Time} (hok : TasksOk r.tasks now) {id : String} {p : Param}
    (hfr : ∀ t ∈ r.tasks, t.id ≠ id) (hne : (Repo.step {} r now (.add id p)).2.isErr = false) :
    (Repo.step {} r now (.add id p)).1.tasks = r.tasks ++ [p.normalize.toTask id now] ∧
      TasksOk (Repo.step {} r now (.add id p)).1.tasks now := by
  simp only [Repo.step] at hne ⊢
  split at hne
  · cases hne
  · rw [if_neg ‹_›]
    refine ⟨rfl, hok.append (fun a ha => hfr a ha) ?_⟩
    exact ⟨normalize_mod _, normalize_mod _, Int.le_trans (normalize_le _) (normalize_le _)⟩

theorem update_shape {r : Repo} {now : Time} (hok : TasksOk r.tasks now) {id : String} {p : Param}
    (hne : (Repo.step {} r now (.update id p)).2.isErr = false) :
    ∃ g, (Repo.step {} r now (.update id p)).1.tasks = r.tasks.map g ∧
      (∀ t ∈ r.tasks, g t = t ∨ (t.id = id ∧ t.state = .scheduled ∧ g t = t.update p.normalize)) ∧
      TasksOk (r.tasks.map g) now := by
  have hv : p.validForUpdate = true := by
    cases hv : p.validForUpdate with
    | true => rfl
    | false => simp [Repo.step, hv, Out.isErr] at hne
  rw [(Edit.update id p hv).step_fst]
  obtain ⟨g, h1, h2⟩ := guarded_shape hok id .scheduled fun t => t.update p.normalize
  exact ⟨g, h1, h2, tasksOk_mutate (fT := (·.update p.normalize)) hok (fun t ht => (h2 t ht).imp_right (·.2.2))
    fun t _ n2 => ⟨rfl, normalize_mod _, normalize_of_mod n2⟩⟩

/-- A write that takes the task out of the scheduled state (or never finds it in the state it asks for) and keeps what
`TasksOk` looks at: only the task with this id changes, and it is not scheduled afterwards. -/
theorem Edit.unschedule {now : Time} {op : Op} {id : String} {want : St} {f : Task → Task} (he : Edit now op id want f)
    (fl : Flags) {r : Repo} {now' : Time} (hok : TasksOk r.tasks now')
    (hf : ∀ t, (f t).scheduledAt = t.scheduledAt ∧ (f t).createdAt = t.createdAt ∧ (f t).state ≠ .scheduled) :
    ∃ g, (Repo.step fl r now op).1.tasks = r.tasks.map g ∧
      (∀ t ∈ r.tasks, g t = t ∨ (t.id = id ∧ (g t).state ≠ .scheduled)) ∧ TasksOk (r.tasks.map g) now' := by
  obtain ⟨g, h1, h2, _⟩ := he.map fl r
  exact ⟨g, h1, fun t ht => (h2 t ht).imp_right fun ⟨a, e⟩ => ⟨a, e ▸ (hf t).2.2⟩,
    tasksOk_mutate hok (fun t ht => (h2 t ht).imp_right (·.2)) fun t n1 _ =>
      ⟨he.id_eq t, (hf t).1 ▸ n1, (hf t).2.1⟩⟩

theorem Inv_mut {o : Obs} (hI : Inv o) {op : Obs.OOp} {rop : Op} {d : Hook → Hook.Act}
    (hm : op.mut = some (rop, d)) (f : Option Err) (hfr : o.FreshOp op) : Inv (o.step op f).1 := by
  obtain ⟨hok, hH⟩ := hI
  rw [Obs.step_mut hm]
  split
  · exact ⟨hok, hH⟩
  · next hne =>
    rw [Bool.not_eq_true] at hne
    generalize hr : (Repo.step {} o.repo o.clock.now rop).1 = r
    have hH' : HookInvR o.repo ({ o with repo := r } : Obs).hook ({ o with repo := r } : Obs).clock := hH
    cases op <;> cases hm
    · have ⟨h1, h2⟩ := add_shape hok hfr hne
      rw [hr] at h1 h2
      exact hookAdd_inv hH' hok h2 h1 f
    · obtain ⟨g, h1, h2, h3⟩ := update_shape hok hne
      rw [hr] at h1
      exact hookUpdate_inv hH' hok (o := { o with repo := r }) (h1 ▸ h3) h1 h2 f
    · obtain ⟨g, h1, h2, h3⟩ := (Edit.cancel _).unschedule {} hok fun _ => ⟨rfl, rfl, nofun⟩
      rw [hr] at h1
      exact act_inv hH' (o := { o with repo := r }) (h1 ▸ h3) (Hook.onCancel_spec hH.fixed _) (unschedule_keeps h1 h2)
        (fun _ h => h.elim) f
    · obtain ⟨g, h1, h2, h3⟩ := (Edit.dispatch _).unschedule {} hok fun _ => ⟨rfl, rfl, nofun⟩
      rw [hr] at h1
      exact hookDispatch_inv hH' (o := { o with repo := r }) (h1 ▸ h3) h1 h2 f

/-! ### The ghost fire

Once the scheduler has received the fire, the channel is empty and nothing is armed: the clock clause of `HookInvR`
is broken until somebody re-arms. `Inv` still holds of the *ghost* observable in which the fire is back in the
channel; a hook either re-arms (then ghost and real state coincide) or does not look at the clock at all. -/

def Obs.ghost (o : Obs) : Obs := { o with clock := { o.clock with pending := true } }

def Obs.Dead (o : Obs) : Prop := o.clock.armed = none ∧ o.clock.pending = false

@[simp] theorem Obs.ghost_hook (o : Obs) : o.ghost.hook = o.hook := rfl
@[simp] theorem Obs.ghost_repo (o : Obs) : o.ghost.repo = o.repo := rfl
@[simp] theorem Obs.ghost_now (o : Obs) : o.ghost.clock.now = o.clock.now := rfl
@[simp] theorem Obs.ghost_armed (o : Obs) : o.ghost.clock.armed = o.clock.armed := rfl
@[simp] theorem Obs.ghost_pending (o : Obs) : o.ghost.clock.pending = true := rfl

theorem ghost_started {o : Obs} (hI : Inv o.ghost) : o.hook.started = true :=
  Bool.of_not_eq_false fun hs => Bool.noConfusion (hI.2.stopped hs).2.2.2.1

/-- with an empty cache the clock clause is void: the ghost invariant is the real one -/
theorem inv_of_ghost_cached_none {o : Obs} (hI : Inv o.ghost) (hd : o.Dead)
    (hc : o.hook.cached = none) : Inv o := by
  have hs := ghost_started hI
  obtain ⟨hok, hH⟩ := hI
  refine ⟨hok, ⟨hH.fixed, ?_, ?_, hH.errd, hH.empty, ?_, ?_⟩⟩
  · intro h; rw [hd.1] at h; cases h
  · intro h; rw [hs] at h; cases h
  · intro _ _ c0 h; rw [hc] at h; cases h
  · intro _ _ c0 h; rw [hc] at h; cases h

theorem ghost_update {o : Obs} (hs : o.hook.started = true) (ha : o.clock.armed = none)
    (f : Option Err) : o.ghost.update f = o.update f := by
  unfold Obs.update Obs.ghost Clock.stopAndDrain
  simp [hs, ha]

theorem ghost_of_consume {o : Obs} (hI : Inv o) (hp : o.clock.pending = true) :
    o.received.Dead ∧ o.received.ghost = o := by
  have ha : o.clock.armed = none :=
    Option.not_isSome_iff_eq_none.1 fun h => nomatch hp.symm.trans (hI.2.clk h)
  refine ⟨⟨ha, rfl⟩, ?_⟩
  obtain ⟨r, h, c⟩ := o
  obtain ⟨n, a, p⟩ := c
  simp only at hp
  subst hp
  rfl

/-- The scheduler holds `t` (in its pc, in `lastTask`, or in a returned `DispatchErr`) and marking
it as dispatched will re-arm the timer: whenever the cache is trusted it names `t`, and `t` is still
scheduled. -/
def Obs.Held (o : Obs) (t : Task) : Prop :=
  (∀ c0, o.hook.cached = some c0 → o.hook.stale = false → t.id = c0.id) ∧
  (∃ u ∈ o.repo.tasks, u.id = t.id ∧ u.state = .scheduled)

theorem Inv.trusted_head {o : Obs} {hd : Task} (hI : Inv o) (hs : o.hook.started = true)
    (he : o.hook.lastErr = none) (hst : o.hook.stale = false) (hn : o.repo.getNext = some hd) :
    ∃ c, o.hook.cached = some c ∧ hd.id = c.id ∧ hd.scheduledAt = c.scheduledAt ∧ hd.priority = c.priority ∧
      o.hook.timerReset = true ∧ (o.clock.pending = true ∨ o.clock.armed = some c.scheduledAt) := by
  cases hc : o.hook.cached with
  | none => exact nomatch (hI.2.empty hs he hc).1.symm.trans hn
  | some c =>
    have ⟨a, ⟨hd', y, b1, b2, b3⟩, d⟩ := hI.2.live hs he c hc hst
    cases y.symm.trans hn
    exact ⟨c, rfl, b1, b2, b3, a, d⟩

theorem held_of_head {o : Obs} (hI : Inv o.ghost) {t : Task} (hn : o.repo.getNext = some t) :
    o.Held t := by
  refine ⟨fun c0 hc hst => ?_, t, Repo.getNext_mem hn, rfl, Repo.getNext_scheduled hn⟩
  cases he : o.hook.lastErr with
  | some e => exact nomatch (hI.2.errd e he).1.symm.trans hc
  | none =>
    obtain ⟨c, hc', e, _⟩ := hI.trusted_head (ghost_started hI) he hst hn
    cases hc.symm.trans hc'
    exact e

/-- a decision taken on the ghost is the decision taken on the real state; only `rearm` looks at the clock, and it
does not see the ghost fire -/
theorem ghost_act {o : Obs} (hs : o.hook.started = true) (ha : o.clock.armed = none) (a : Hook.Act)
    (f : Option Err) : o.ghost.act a f = o.act a f ∨ (a ≠ .rearm ∧ o.ghost.act a f = (o.act a f).ghost) := by
  cases a
  · exact .inl (ghost_update hs ha f)
  · exact .inr ⟨Hook.Act.noConfusion, rfl⟩
  · exact .inr ⟨Hook.Act.noConfusion, rfl⟩

/-- marking a held task as dispatched re-arms the timer: the debt is paid -/
theorem dispatch_pays {o : Obs} (hd : o.Dead) (hI : Inv o.ghost) {t : Task} (hh : o.Held t)
    (f : Option Err) : Inv (o.step (.dispatch t.id) f).1 := by
  have hG := Inv_mut hI (op := .dispatch t.id) rfl f trivial
  obtain ⟨hh1, u, hu, hid, hsc⟩ := hh
  have hne : (Repo.step {} o.repo o.clock.now (.dispatch t.id)).2.isErr = false := by
    rw [(Edit.dispatch t.id).step_hit {} (hid ▸ hI.1.lookup_mem hu) hsc]
    rfl
  rw [Obs.step_mut rfl, if_neg (Bool.not_eq_true _ ▸ hne)] at hG ⊢
  simp only [Obs.ghost_repo, Obs.ghost_now, Obs.ghost_hook] at hG
  generalize (Repo.step {} o.repo o.clock.now (.dispatch t.id)).1 = r at hG ⊢
  change Inv (({ o with repo := r } : Obs).ghost.act (o.hook.onDispatch t.id) f) at hG
  change Inv (({ o with repo := r } : Obs).act (o.hook.onDispatch t.id) f)
  rcases ghost_act (o := { o with repo := r }) (ghost_started hI :) hd.1 (o.hook.onDispatch t.id) f with h | ⟨hr, h⟩
  · exact h ▸ hG
  · rcases Hook.onDispatch_spec (h := o.hook) hI.2.fixed t.id with ⟨hc, hk⟩ | hdec
    · rw [hk] at hG ⊢
      exact inv_of_ghost_cached_none (o := { o with repo := r }) hG hd hc
    · generalize o.hook.onDispatch t.id = a at hdec hr
      cases hdec with
      | rearm => exact absurd rfl hr
      | keep c hc hst hne => exact absurd (hh1 c hc hst).symm hne
      | markStale _ _ _ h => exact h.elim

theorem Inv_step {o : Obs} (hI : Inv o) (op : Obs.OOp) (f : Option Err) (hfr : o.FreshOp op) :
    Inv (o.step op f).1 := by
  cases hm : op.mut with
  | some m => exact Inv_mut hI (rop := m.1) (d := m.2) hm f hfr
  | none =>
    obtain ⟨hok, hH⟩ := hI
    cases op <;> cases hm
    · exact update_inv' (o := { o with hook := { o.hook with started := true } }) hH.fixed hH.clk
        (fun h => Bool.noConfusion h) hok f
    · exact stopTimer_inv hH.fixed hH.clk hok
    · next t =>
      simp only [Obs.step]
      have ⟨h1, h2⟩ := Clock.advance_cases o.clock t
      generalize o.clock.advance t = c' at h1 h2
      refine ⟨hok.mono h1, ?_⟩
      rcases h2 with ⟨h2, h3⟩ | ⟨h2, h3, h4⟩
      · exact ⟨hH.fixed, by rw [h2, h3]; exact hH.clk, by rw [h2, h3]; exact hH.stopped, hH.errd,
          hH.empty, by rw [h2, h3]; exact hH.live, by rw [h2, h3]; exact hH.stl⟩
      · -- the armed deadline has passed: the fire is pending
        exact ⟨hH.fixed, by simp [h3], fun a => by simp [(hH.stopped a).2.2.1] at h2, hH.errd, hH.empty,
          fun a b c0 hc hs => (hH.live a b c0 hc hs).imp_right (·.imp_right fun _ => .inl h4),
          fun a b c0 hc hs => (hH.stl a b c0 hc hs).imp_right (·.imp_right fun _ => .inl h4)⟩
    · -- a fire that is received: the state before is the ghost of the state after the receive, and the head is held
      rw [Obs.step_fire]
      split
      · exact ⟨hok, hH⟩
      · next hp =>
        have ⟨hd, hg⟩ := ghost_of_consume ⟨hok, hH⟩ (Bool.not_eq_false _ ▸ hp)
        have hG : Inv o.received.ghost := hg.symm ▸ (⟨hok, hH⟩ : Inv o)
        cases hn : o.repo.getNext with
        | none =>
          refine inv_of_ghost_cached_none hG hd ?_
          cases hc : o.hook.cached with
          | none => exact hc
          | some c =>
            -- a cached task under `Inv` means a scheduled head
            exfalso
            have hs : o.hook.started = true := ghost_started hG
            cases he : o.hook.lastErr with
            | some e => have := (hH.errd e he).1; rw [hc] at this; cases this
            | none =>
              cases hst : o.hook.stale with
              | false => have ⟨_, ⟨_, y, _⟩, _⟩ := hH.live hs he c hc hst; rw [hn] at y; cases y
              | true => have ⟨_, ⟨_, y⟩, _⟩ := hH.stl hs he c hc hst; rw [hn] at y; cases y
        | some h => exact dispatch_pays hd hG (held_of_head hG hn) f

theorem Inv_init (t0 : Time) : Inv (Obs.init t0) :=
  ⟨TasksOk.nil _, by constructor <;> simp [Obs.init]⟩

theorem Inv_run {o : Obs} (hI : Inv o) (ops : List (Obs.OOp × Option Err))
    (hf : o.FreshHist ops) : Inv (o.run ops) := by
  induction ops generalizing o with
  | nil => exact hI
  | cons x rest ih =>
    obtain ⟨op, f⟩ := x
    exact ih (Inv_step hI op f hf.1) hf.2

theorem Inv.head_timed {o : Obs} {hd : Task} (hI : Inv o) (hst : o.hook.started = true)
    (he : o.hook.lastErr = none) (hn : o.repo.getNext = some hd) :
    o.clock.pending = true ∨ ∃ d, o.clock.armed = some d ∧ d ≤ hd.scheduledAt := by
  cases hs : o.hook.stale with
  | false =>
    obtain ⟨c, _, _, e, _, _, y⟩ := hI.trusted_head hst he hs hn
    exact y.imp_right fun y => ⟨_, y, Int.le_of_eq e.symm⟩
  | true =>
    cases hca : o.hook.cached with
    | none => exact nomatch (hI.2.empty hst he hca).1.symm.trans hn
    | some c0 =>
      have ⟨_, _, y3⟩ := hI.2.stl hst he c0 hca hs
      exact y3.imp_right fun ⟨d, y3, y4⟩ => ⟨d, y3, y4 hd (Repo.getNext_mem hn) (Repo.getNext_scheduled hn)⟩

theorem Inv.neverLate {o : Obs} (hI : Inv o) : o.neverLate = true := by
  unfold Obs.neverLate
  split
  · next hc =>
    simp only [Bool.and_eq_true, Option.isNone_iff_eq_none] at hc
    cases hn : o.repo.getNext with
    | none => rfl
    | some hd =>
      rcases hI.head_timed hc.1 hc.2 hn with h | ⟨d, h, hle⟩
      · simp [h]
      · simp [h, hle]
  · rfl

theorem Inv.stoppedSilent {o : Obs} (hI : Inv o) : o.stoppedSilent = true := by
  obtain ⟨_, hH⟩ := hI
  unfold Obs.stoppedSilent
  cases hs : o.hook.started with
  | true => rfl
  | false =>
    have ⟨_, _, a, b, _⟩ := hH.stopped hs
    simp [a, b]

/-! ## The injected fault either surfaces or was never consulted -/

theorem step_dich (o : Obs) (op : Obs.OOp) (e : Err) :
    ((o.step op (some e)).1).Surfaced e ∨ ∀ f, (o.step op f).1 = (o.step op (some e)).1 := by
  have hmut : ∀ (o : Obs) {op : Obs.OOp} {m}, op.mut = some m →
      ((o.step op (some e)).1).Surfaced e ∨ ∀ f, (o.step op f).1 = (o.step op (some e)).1 := by
    intro o op m hm
    simp only [Obs.step_mut hm]
    split
    · exact .inr fun _ => rfl
    · exact Obs.act_dich _ _ e
  cases hm : op.mut with
  | some m => exact hmut o hm
  | none =>
    cases op <;> cases hm
    · exact update_dich _ e
    · exact .inr fun _ => rfl
    · exact .inr fun _ => rfl
    · simp only [Obs.step_fire]
      split
      · exact .inr fun _ => rfl
      · cases o.repo.getNext with
        | none => exact .inr fun _ => rfl
        | some h => exact hmut o.received (op := .dispatch h.id) rfl

theorem run_now_mono (o : Obs) (ops : List (Obs.OOp × Option Err)) :
    o.clock.now ≤ (o.run ops).clock.now := by
  induction ops generalizing o with
  | nil => exact Int.le_refl _
  | cons x rest ih =>
    obtain ⟨op, f⟩ := x
    exact Int.le_trans (step_now_mono o op f) (ih _)

end Gk
