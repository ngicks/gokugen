/-
`heap.Init`: builds a heap out of any array. The loop runs `down` from `n/2 - 1` to `0`; after the
step at `i` the pairs whose parent is at `≥ i` are in order (`HeapR _ _ i size`).
-/
import Gk.Proofs.HeapOps

set_option linter.unusedSectionVars false

namespace Gk
namespace H
variable {α : Type} [DecidableEq α]

theorem down_heapR_succ {lt : α → α → Bool} (o : LtOrder lt) (h : H α) (i : Nat)
    (hh : HeapR lt h.arr (i + 1) h.arr.size) :
    HeapR lt (down lt h i h.arr.size).1.arr i h.arr.size := by
  refine down_inv o h i i _ (Nat.le_refl _) (Nat.le_refl _) ⟨?_, ?_⟩
  · exact fun j hj h0 hjn hmp hpi => hh j hj h0 hjn (Nat.lt_of_le_of_ne hmp (Ne.symm hpi))
  · exact fun j hj h0 h0i hpi hjn hmp => absurd hmp (Nat.not_le_of_lt (parent_lt h0i))

theorem initFrom_frame (lt : α → α → Bool) (h : H α) (k : Nat) : Frame h (initFrom lt h k) := by
  induction k generalizing h with
  | zero => exact down_frame lt h 0 _
  | succ k ih => exact (down_frame lt h (k+1) _).trans (ih _)

theorem initFrom_heap {lt : α → α → Bool} (o : LtOrder lt) (h : H α) (k : Nat)
    (hh : HeapR lt h.arr (k + 1) h.arr.size) : HeapP lt (initFrom lt h k).arr h.arr.size := by
  induction k generalizing h with
  | zero => exact heapR_zero.1 (down_heapR_succ o h 0 hh)
  | succ k ih =>
    have := ih _ (by rw [down_size]; exact down_heapR_succ o h (k+1) hh)
    rwa [down_size] at this

/-- `heap.Init` turns any array into a heap with the same elements. Since `Init` only calls
`Swap`, the `Index` fields are correct afterwards only if they were correct before. -/
theorem init_correct {lt : α → α → Bool} (o : LtOrder lt) (h : H α) :
    IsHeap lt (init lt h).arr ∧
    (init lt h).arr.toList.Perm h.arr.toList ∧
    (h.arr.toList.Nodup → IdxOk h → IdxOk (init lt h)) ∧
    (∀ y, y ∉ h.arr.toList → (init lt h).idx y = h.idx y) := by
  unfold init
  simp only
  split
  · next hsz =>
    -- fewer than two elements: no position has a parent
    refine ⟨(isHeap_iff_heapP ..).2 fun j hj h0 _ => ?_, .refl _, fun _ ok => ok, fun _ _ => rfl⟩
    exact absurd hsz (Nat.ne_of_gt (Nat.div_pos
      (Nat.succ_le_of_lt (Nat.lt_of_lt_of_le (Nat.succ_lt_succ h0) hj)) Nat.two_pos))
  · next hsz =>
    have f := initFrom_frame lt h (h.arr.size / 2 - 1)
    refine ⟨?_, f.perm, f.idxOk, f.idx_out⟩
    rw [isHeap_iff_heapP, f.size_eq]
    refine initFrom_heap o h _ fun j hj h0 _ hmp => ?_
    -- no position below `size` has its parent at `≥ size / 2`
    rw [Nat.sub_add_cancel (Nat.pos_of_ne_zero hsz)] at hmp
    omega

end H
end Gk
