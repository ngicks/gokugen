/-
`normalize` is idempotent, never rounds up and yields a normalised value, stated with `Int` binders. `Gk/Proofs/Task.lean` states them over
`Time` under the same names, so the two modules cannot be imported together; only the C11 audit imports this one.
-/
import Gk.Basic
namespace Gk

theorem normalize_idem (x : Int) : normalize (normalize x) = normalize x := by
  show (x - x % 1000000 : Int) - (x - x % 1000000) % 1000000 = x - x % 1000000
  omega

theorem normalize_le (t : Int) : normalize t ≤ t := by
  show (t - t % 1000000 : Int) ≤ t
  omega

theorem isNorm_normalize (x : Int) : isNorm (normalize x) = true := by
  show ((x - x % 1000000 : Int) % 1000000 == 0) = true
  simp only [beq_iff_eq]; omega

end Gk
