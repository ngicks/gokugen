/-
Every hook of the mutation-hook timer is "decide from the hook record alone, then act".
`Hook.Act` / `Obs.act` name the three things a hook call can do, `Hook.onAdd` … name the decision, and
`hookAdd_eq` … `hookDispatch_eq` (one walk over the hook's tree each) are the only place where a hook function is
unfolded.
-/
import Gk.Proofs.Clock
import Gk.Proofs.Task
namespace Gk

theorem update_frame (o : Obs) (f : Option Err) :
    (o.update f).repo = o.repo ∧ (o.update f).clock.now = o.clock.now ∧
      (o.update f).hook.started = o.hook.started ∧ (o.update f).hook.fixed = o.hook.fixed := by
  unfold Obs.update
  split
  · exact ⟨rfl, rfl, rfl, rfl⟩
  · dsimp only
    split
    · exact ⟨rfl, Clock.stopAndDrain_now _, rfl, rfl⟩
    · split
      · exact ⟨rfl, (Clock.reset_now _ _).trans (Clock.stopAndDrain_now _), rfl, rfl⟩
      · exact ⟨rfl, Clock.stopAndDrain_now _, rfl, rfl⟩

inductive Hook.Act
  | rearm | keep | markStale

/-- Carry out a hook's decision. Only `rearm` looks at the repository, the clock or the fault. -/
def Obs.act (o : Obs) (a : Hook.Act) (f : Option Err) : Obs :=
  match a with
  | .rearm => o.update f
  | .keep => o
  | .markStale => { o with hook := { o.hook with stale := true } }

namespace Hook
open Obs (untrusted)

/-- what the `AddTask` hook compares with the cached task -/
def addProbe (p : Param) : Task := p.toTask "%%%%$$$$%%%%$$$$%%%%$$$$" farFuture

/-- what the `UpdateById` hook compares with the cached task `c` when `c` itself is updated -/
def updateProbe (p : Param) (c : Task) : Task :=
  ({ p with priority := p.priority.or (some c.priority),
            scheduledAt := p.scheduledAt.or (some c.scheduledAt) } : Param).toTask "%%%%$$$$%%%%$$$$%%%%$$$$" 0

def onAdd (h : Hook) (p : Param) : Act :=
  match h.cached with
  | none => .rearm
  | some c => if untrusted h || (addProbe p).lessHook c then .rearm else .keep

def onUpdate (h : Hook) (id : String) (p : Param) : Act :=
  match h.cached with
  | none => .rearm
  | some c =>
    if untrusted h then .rearm else
    let p := if h.fixed then p.normalize else p
    if id == c.id then
      if p.priority.isNone && p.scheduledAt.isNone then .keep
      else if (updateProbe p c).lessHook c then .rearm
      else if h.fixed then .markStale
      else .keep
    else
      let before : Bool := match p.scheduledAt with
        | some s => if h.fixed then decide (s ≤ c.scheduledAt) else decide (s < c.scheduledAt)
        | none => false
      if before then .rearm else
      let higher : Bool := match p.priority, p.scheduledAt with
        | some pr, none => if h.fixed then decide (pr ≥ c.priority) else decide (pr > c.priority)
        | _, _ => false
      if higher then .rearm else .keep

def onCancel (h : Hook) (id : String) : Act :=
  match h.cached with
  | none => .rearm
  | some c => if untrusted h || c.id == id then .rearm else .keep

def onDispatch (h : Hook) (id : String) : Act :=
  match h.cached with
  | none => .keep
  | some c => if (h.fixed && h.stale) || c.id == id then .rearm else .keep

end Hook

theorem Obs.act_ite (o : Obs) (c : Prop) [Decidable c] (a b : Hook.Act) (f : Option Err) :
    o.act (if c then a else b) f = if c then o.act a f else o.act b f := by
  split <;> rfl

theorem hookAdd_eq (o : Obs) (p : Param) (f : Option Err) :
    o.hookAdd p f = o.act (o.hook.onAdd p) f := by
  unfold Obs.hookAdd Hook.onAdd
  cases o.hook.cached with
  | none => rfl
  | some c => rw [Obs.act_ite]; rfl

theorem hookCancel_eq (o : Obs) (id : String) (f : Option Err) :
    o.hookCancel id f = o.act (o.hook.onCancel id) f := by
  unfold Obs.hookCancel Hook.onCancel
  cases o.hook.cached with
  | none => rfl
  | some c => dsimp only; split <;> rfl

theorem hookDispatch_eq (o : Obs) (id : String) (f : Option Err) :
    o.hookDispatch id f = o.act (o.hook.onDispatch id) f := by
  unfold Obs.hookDispatch Hook.onDispatch
  cases o.hook.cached with
  | none => rfl
  | some c => dsimp only; split <;> rfl

theorem hookUpdate_eq (o : Obs) (id : String) (p : Param) (f : Option Err) :
    o.hookUpdate id p f = o.act (o.hook.onUpdate id p) f := by
  unfold Obs.hookUpdate Hook.onUpdate
  cases o.hook.cached with
  | none => rfl
  | some c => simp only [Obs.act_ite]; rfl

theorem Hook.untrusted_some {h : Hook} (hf : h.fixed = true) {c : Task} (hc : h.cached = some c) :
    Obs.untrusted h = h.stale := by
  simp only [Obs.untrusted, hc, hf, Option.isNone_some, Bool.false_or, Bool.true_and]

theorem untrusted_false {hk : Hook} (hf : hk.fixed = true) (h : Obs.untrusted hk = false) :
    hk.stale = false := by
  unfold Obs.untrusted at h
  simp only [hf, Bool.true_and, Bool.or_eq_false_iff] at h
  exact h.2

/-- The repaired hook never leaves the timer alone on an empty or distrusted cache (`MarkAsDispatched` on an empty
cache apart): a decision is `rearm`, or it is taken on a trusted cached task `c`, of which `K c` (`keep`) resp.
`S c` (`markStale`) is then known (an upper bound on keeping: nothing here says when the hook does NOT re-arm). -/
inductive Hook.Decides (h : Hook) (K S : Task → Prop) : Hook.Act → Prop
  | rearm : Decides h K S .rearm
  | keep (c : Task) : h.cached = some c → h.stale = false → K c → Decides h K S .keep
  | markStale (c : Task) : h.cached = some c → h.stale = false → S c → Decides h K S .markStale

theorem Hook.Decides.of_or {h : Hook} {K S : Task → Prop} {c : Task} (hc : h.cached = some c) (b : Bool)
    (hk : b = false → K c) : h.Decides K S (if (h.stale || b) = true then .rearm else .keep) := by
  split
  · exact .rearm
  · next hn =>
    rw [Bool.or_eq_true, not_or, Bool.not_eq_true, Bool.not_eq_true] at hn
    exact .keep c hc hn.1 (hk hn.2)

theorem Hook.onAdd_spec {h : Hook} (hf : h.fixed = true) (p : Param) :
    h.Decides (fun c => (Hook.addProbe p).lessHook c = false) (fun _ => False) (h.onAdd p) := by
  unfold Hook.onAdd
  cases hc : h.cached with
  | none => exact .rearm
  | some c =>
    dsimp only
    rw [Hook.untrusted_some hf hc]
    exact .of_or hc _ id

theorem Hook.onCancel_spec {h : Hook} (hf : h.fixed = true) (id : String) :
    h.Decides (fun c => c.id ≠ id) (fun _ => False) (h.onCancel id) := by
  unfold Hook.onCancel
  cases hc : h.cached with
  | none => exact .rearm
  | some c =>
    dsimp only
    rw [Hook.untrusted_some hf hc]
    exact .of_or hc _ ne_of_beq_false

theorem Hook.onDispatch_spec {h : Hook} (hf : h.fixed = true) (id : String) :
    (h.cached = none ∧ h.onDispatch id = .keep) ∨
      h.Decides (fun c => c.id ≠ id) (fun _ => False) (h.onDispatch id) := by
  unfold Hook.onDispatch
  cases hc : h.cached with
  | none => exact .inl ⟨rfl, rfl⟩
  | some c =>
    dsimp only
    rw [hf, Bool.true_and]
    exact .inr (.of_or hc _ ne_of_beq_false)

/-- On the cached task itself: nothing to do if neither time nor priority is given; otherwise re-arm if the new
values sort before the cached ones, and else only distrust the cache. On another task: keep only if a given time is
later than the cached one, or no time and a lower priority (or none) is given. -/
theorem Hook.onUpdate_spec {h : Hook} (hf : h.fixed = true) (id : String) (p : Param) :
    h.Decides
      (fun c => if id = c.id then p.priority = none ∧ p.scheduledAt = none
        else (∀ s, p.scheduledAt = some s → c.scheduledAt < normalize s) ∧
          (p.scheduledAt = none → ∀ pr, p.priority = some pr → pr < c.priority))
      (fun c => id = c.id ∧ (Hook.updateProbe p.normalize c).lessHook c = false)
      (h.onUpdate id p) := by
  -- the three ways out, with the predicates abstract so that the case splits below leave them alone
  suffices H : ∀ K S : Task → Prop,
      (∀ c, id = c.id → p.priority = none → p.scheduledAt = none → K c) →
      (∀ c, id ≠ c.id → (∀ s, p.scheduledAt = some s → c.scheduledAt < normalize s) →
        (p.scheduledAt = none → ∀ pr, p.priority = some pr → pr < c.priority) → K c) →
      (∀ c, id = c.id → (Hook.updateProbe p.normalize c).lessHook c = false → S c) →
      h.Decides K S (h.onUpdate id p) from
    H _ _ (fun c e h1 h2 => by rw [if_pos e]; exact ⟨h1, h2⟩) (fun c e h1 h2 => by rw [if_neg e]; exact ⟨h1, h2⟩)
      (fun c e hl => ⟨e, hl⟩)
  intro K S same other stale
  unfold Hook.onUpdate
  cases hc : h.cached with
  | none => exact .rearm
  | some c =>
    dsimp only
    rw [Hook.untrusted_some hf hc, if_pos hf]
    cases hst : h.stale with
    | true => exact .rearm
    | false =>
      rw [if_neg Bool.false_ne_true]
      by_cases hid : id = c.id
      · rw [if_pos (beq_iff_eq.2 hid), if_pos hf]
        split
        · next hn =>
          rw [Bool.and_eq_true, Option.isNone_iff_eq_none, Option.isNone_iff_eq_none] at hn
          exact .keep c hc hst (same c hid hn.1 (Option.map_eq_none_iff.1 hn.2))
        · split
          · exact .rearm
          · next hl => exact .markStale c hc hst (stale c hid (Bool.not_eq_true _ ▸ hl))
      · rw [if_neg (mt beq_iff_eq.1 hid)]
        replace other := fun h1 h2 => Hook.Decides.keep (S := S) c hc hst (other c hid h1 h2)
        rw [Param.normalize_scheduledAt, Param.normalize_priority]
        cases hs : p.scheduledAt with
        | some s =>
          simp only [hf, if_true, Option.map_some]
          split
          · exact .rearm
          · next hb =>
            rw [decide_eq_true_eq] at hb
            cases p.priority <;>
              exact other (fun s' e => by cases hs.symm.trans e; exact Int.lt_of_not_ge hb) (fun e => nomatch hs.symm.trans e)
        | none =>
          simp only [hf, if_true, Option.map_none, Bool.false_eq_true, if_false]
          cases hp : p.priority with
          | none => exact other (fun _ e => nomatch hs.symm.trans e) (fun _ _ e => nomatch hp.symm.trans e)
          | some pr =>
            dsimp only
            split
            · exact .rearm
            · next hb =>
              rw [decide_eq_true_eq] at hb
              exact other (fun _ e => nomatch hs.symm.trans e)
                (fun _ pr' e => by cases hp.symm.trans e; exact Int.lt_of_not_ge hb)

theorem Obs.act_frame (o : Obs) (a : Hook.Act) (f : Option Err) :
    (o.act a f).repo = o.repo ∧ (o.act a f).clock.now = o.clock.now ∧
      (o.act a f).hook.started = o.hook.started ∧ (o.act a f).hook.fixed = o.hook.fixed := by
  cases a
  · exact update_frame o f
  · exact ⟨rfl, rfl, rfl, rfl⟩
  · exact ⟨rfl, rfl, rfl, rfl⟩

@[simp] theorem update_repo (o : Obs) (f : Option Err) : (o.update f).repo = o.repo := (update_frame o f).1
@[simp] theorem update_now (o : Obs) (f : Option Err) : (o.update f).clock.now = o.clock.now :=
  (update_frame o f).2.1
@[simp] theorem Obs.act_repo (o : Obs) (a : Hook.Act) (f : Option Err) : (o.act a f).repo = o.repo :=
  (o.act_frame a f).1
@[simp] theorem Obs.act_now (o : Obs) (a : Hook.Act) (f : Option Err) :
    (o.act a f).clock.now = o.clock.now := (o.act_frame a f).2.1
@[simp] theorem Obs.act_started (o : Obs) (a : Hook.Act) (f : Option Err) :
    (o.act a f).hook.started = o.hook.started := (o.act_frame a f).2.2.1

theorem Obs.startTimer_eq (o : Obs) (f : Option Err) :
    o.startTimer f = ({ o with hook := { o.hook with started := true } } : Obs).update f := rfl
@[simp] theorem Obs.startTimer_repo (o : Obs) (f : Option Err) : (o.startTimer f).repo = o.repo := update_repo _ f
@[simp] theorem Obs.startTimer_now (o : Obs) (f : Option Err) : (o.startTimer f).clock.now = o.clock.now :=
  update_now _ f
@[simp] theorem Obs.startTimer_started (o : Obs) (f : Option Err) : (o.startTimer f).hook.started = true :=
  (update_frame _ f).2.2.1
@[simp] theorem Obs.startTimer_fixed (o : Obs) (f : Option Err) : (o.startTimer f).hook.fixed = o.hook.fixed :=
  (update_frame _ f).2.2.2

@[simp] theorem Obs.stopTimer_repo (o : Obs) : o.stopTimer.repo = o.repo := rfl
@[simp] theorem Obs.stopTimer_clock (o : Obs) : o.stopTimer.clock = o.clock.stopAndDrain := rfl
@[simp] theorem Obs.stopTimer_now (o : Obs) : o.stopTimer.clock.now = o.clock.now := Clock.stopAndDrain_now _
theorem Obs.stopTimer_hook (o : Obs) :
    o.stopTimer.hook = { o.hook with timerReset := false, cached := none, stale := false, started := false } := rfl

theorem hookAdd_repo (o : Obs) (p : Param) (f : Option Err) : (o.hookAdd p f).repo = o.repo := by
  rw [hookAdd_eq, Obs.act_repo]
theorem hookUpdate_repo (o : Obs) (id : String) (p : Param) (f : Option Err) :
    (o.hookUpdate id p f).repo = o.repo := by rw [hookUpdate_eq, Obs.act_repo]
theorem hookCancel_repo (o : Obs) (id : String) (f : Option Err) : (o.hookCancel id f).repo = o.repo := by
  rw [hookCancel_eq, Obs.act_repo]
theorem hookDispatch_repo (o : Obs) (id : String) (f : Option Err) : (o.hookDispatch id f).repo = o.repo := by
  rw [hookDispatch_eq, Obs.act_repo]
theorem hookDispatch_now (o : Obs) (id : String) (f : Option Err) :
    (o.hookDispatch id f).clock.now = o.clock.now := by rw [hookDispatch_eq, Obs.act_now]

/-- The injected `GetNext` error is what `LastTimerUpdateError` reports, and the timer is idle. -/
def Obs.Surfaced (e : Err) (o : Obs) : Prop :=
  o.hook.lastErr = some e ∧ o.hook.timerReset = false ∧ o.hook.cached = none

theorem update_dich (o : Obs) (e : Err) :
    (o.update (some e)).Surfaced e ∨ ∀ f, o.update f = o.update (some e) := by
  unfold Obs.update Obs.Surfaced
  cases hs : o.hook.started with
  | true => exact .inl ⟨rfl, rfl, rfl⟩
  | false => exact .inr fun _ => rfl

theorem Obs.act_dich (o : Obs) (a : Hook.Act) (e : Err) :
    (o.act a (some e)).Surfaced e ∨ ∀ f, o.act a f = o.act a (some e) := by
  cases a
  · exact update_dich o e
  · exact .inr fun _ => rfl
  · exact .inr fun _ => rfl

/-- the repository write and the hook's decision behind a mutation of the observable repository -/
def Obs.OOp.mut : Obs.OOp → Option (Op × (Hook → Hook.Act))
  | .add id p => some (.add id p, (·.onAdd p))
  | .update id p => some (.update id p, (·.onUpdate id p))
  | .cancel id => some (.cancel id, (·.onCancel id))
  | .dispatch id => some (.dispatch id, (·.onDispatch id))
  | _ => none

theorem Obs.step_mut {op : Obs.OOp} {rop : Op} {d : Hook → Hook.Act} (h : op.mut = some (rop, d))
    (o : Obs) (f : Option Err) :
    o.step op f =
      if (Repo.step {} o.repo o.clock.now rop).2.isErr then (o, (Repo.step {} o.repo o.clock.now rop).2)
      else (({ o with repo := (Repo.step {} o.repo o.clock.now rop).1 } : Obs).act (d o.hook) f,
        (Repo.step {} o.repo o.clock.now rop).2) := by
  cases op <;> cases h
  · rw [← hookAdd_eq]; rfl
  · rw [← hookUpdate_eq]; rfl
  · rw [← hookCancel_eq]; rfl
  · rw [← hookDispatch_eq]; rfl

def Obs.received (o : Obs) : Obs := { o with clock := { o.clock with pending := false } }

theorem Obs.step_fire (o : Obs) (f : Option Err) :
    (o.step .fire f).1 =
      if o.clock.pending = false then o
      else match o.repo.getNext with
        | none => o.received
        | some h => (o.received.step (.dispatch h.id) f).1 := by
  unfold Obs.received
  by_cases hp : o.clock.pending = false
  · rw [if_pos hp]
    simp only [Obs.step, Clock.consume, hp, Bool.not_false, ↓reduceIte]
  · rw [if_neg hp]
    rw [Bool.not_eq_false] at hp
    simp only [Obs.step, Clock.consume, hp, Bool.not_true, Bool.false_eq_true, ↓reduceIte]
    cases o.repo.getNext with
    | none => rfl
    | some h => dsimp only; split <;> rfl

theorem step_now (o : Obs) (op : Obs.OOp) (f : Option Err) (h : ∀ t, op ≠ .advance t) :
    (o.step op f).1.clock.now = o.clock.now := by
  have hmut : ∀ (o : Obs) {op : Obs.OOp} {m}, op.mut = some m → (o.step op f).1.clock.now = o.clock.now := by
    intro o op m hm
    rw [Obs.step_mut hm]
    split
    · rfl
    · exact Obs.act_now ..
  cases hm : op.mut with
  | some m => exact hmut o hm
  | none =>
    cases op <;> cases hm
    · exact update_now { o with hook := { o.hook with started := true } } f
    · exact Clock.stopAndDrain_now _
    · exact absurd rfl (h _)
    · rw [Obs.step_fire]
      split
      · rfl
      · cases o.repo.getNext with
        | none => rfl
        | some h => exact hmut o.received (op := .dispatch h.id) rfl

theorem step_now_mono (o : Obs) (op : Obs.OOp) (f : Option Err) :
    o.clock.now ≤ (o.step op f).1.clock.now := by
  cases op with
  | advance t => exact (Clock.advance_cases o.clock t).1
  | _ => exact Int.le_of_eq (step_now o _ f (by intro _ h; cases h)).symm

end Gk
