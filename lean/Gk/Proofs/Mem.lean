/-
`Impl.Mem` along histories: the invariant and the refinement of `Spec.Repo` over runs, over `Load` (against its
specification `Repo.load`), and over runs interleaved with `Load`s (`Ev`).
-/
import Gk.Proofs.MemStep

namespace Gk

/-- The specification of `Load`: validate everything first, then replace the whole state. -/
def Repo.load (kv : List Task) (r : Repo) : Repo × Out :=
  if kv.any (fun t => !t.isValid) then (r, .err .invalidTask) else ({ tasks := kv }, .ok)

namespace Mem

def run (fl : Flags) (m : Mem) : List (Time × Op) → Mem
  | [] => m
  | (now, op) :: rest => run fl (step fl m now op).1 rest

def outs (fl : Flags) (m : Mem) : List (Time × Op) → List Out
  | [] => []
  | (now, op) :: rest => (step fl m now op).2 :: outs fl (step fl m now op).1 rest

def _root_.Gk.Repo.outs (fl : Flags) (r : Repo) : List (Time × Op) → List Out
  | [] => []
  | (now, op) :: rest => (Repo.step fl r now op).2 :: Repo.outs fl (Repo.step fl r now op).1 rest

/-- A history of in-memory operations in which every `add` uses an id not stored at that point. -/
def Fresh (fl : Flags) (m : Mem) : List (Time × Op) → Prop
  | [] => True
  | (now, op) :: rest => op.isMem = true ∧ FreshOp m op ∧ Fresh fl (step fl m now op).1 rest

theorem run_inv (fl : Flags) {m : Mem} (inv : m.Inv) (h : List (Time × Op)) (hf : Fresh fl m h) :
    (run fl m h).Inv := by
  induction h generalizing m with
  | nil => exact inv
  | cons x rest ih =>
    obtain ⟨now, op⟩ := x
    exact ih (step_inv fl inv now op hf.2.1) hf.2.2

theorem run_refines (fl : Flags) {m : Mem} (inv : m.Inv) (h : List (Time × Op)) (hf : Fresh fl m h) :
    (run fl m h).abs = Repo.run fl m.abs h ∧ outs fl m h = Repo.outs fl m.abs h := by
  induction h generalizing m with
  | nil => exact ⟨rfl, rfl⟩
  | cons x rest ih =>
    obtain ⟨now, op⟩ := x
    have r := refines fl inv now op hf.1
    have := ih (step_inv fl inv now op hf.2.1) hf.2.2
    simp only [run, Repo.run, outs, Repo.outs]
    rw [← r.2, ← r.1]
    exact ⟨this.1, by rw [this.2]⟩

theorem load_eq (kv : List Task) (m : Mem) :
    load kv m =
      if kv.any (fun t => !t.isValid) then (m, .err .invalidTask)
      else (kv.foldl appendTask {}, .ok) := rfl

theorem foldl_appendTask_tasks (kv : List Task) (acc : Mem) :
    (kv.foldl appendTask acc).tasks = acc.tasks ++ kv := by
  induction kv generalizing acc with
  | nil => simp
  | cons t ts ih => rw [List.foldl_cons, ih]; simp

theorem foldl_appendTask_counter (kv : List Task) (acc : Mem) :
    (kv.foldl appendTask acc).counter = acc.counter + kv.length := by
  induction kv generalizing acc with
  | nil => simp
  | cons t ts ih => rw [List.foldl_cons, ih]; simp; omega

theorem foldl_appendTask_inv (kv : List Task) {acc : Mem} (inv : acc.Inv)
    (hd : ∀ t ∈ kv, t.id ∉ acc.tasks.map (·.id)) (nd : (kv.map (·.id)).Nodup) :
    (kv.foldl appendTask acc).Inv := by
  induction kv generalizing acc with
  | nil => exact inv
  | cons t ts ih =>
    rw [List.map_cons, List.nodup_cons] at nd
    rw [List.foldl_cons]
    refine ih (inv.append t (hd t List.mem_cons_self)) ?_ nd.2
    intro t' ht'
    rw [appendTask_tasks, List.map_append, List.mem_append]
    rintro (h | h)
    · exact hd t' (List.mem_cons_of_mem _ ht') h
    · simp at h
      exact nd.1 (List.mem_map.2 ⟨t', ht', h⟩)

theorem foldl_appendTask_rank_of_not_mem (kv : List Task) (acc : Mem) (a : String)
    (ha : a ∉ kv.map (·.id)) : (kv.foldl appendTask acc).rank a = acc.rank a := by
  induction kv generalizing acc with
  | nil => rfl
  | cons t ts ih =>
    rw [List.map_cons, List.mem_cons, not_or] at ha
    rw [List.foldl_cons, ih _ ha.2]
    simp [ha.1]

theorem foldl_appendTask_rank (kv : List Task) (acc : Mem) (nd : (kv.map (·.id)).Nodup)
    (i : Nat) (hi : i < kv.length) :
    (kv.foldl appendTask acc).rank kv[i].id = acc.counter + i + 1 := by
  induction kv generalizing acc i with
  | nil => cases hi
  | cons t ts ih =>
    rw [List.map_cons, List.nodup_cons] at nd
    rw [List.foldl_cons]
    cases i with
    | zero =>
      rw [List.getElem_cons_zero, foldl_appendTask_rank_of_not_mem _ _ _ nd.1]
      simp
    | succ i =>
      rw [List.getElem_cons_succ, ih _ nd.2 i (by simpa using hi)]
      simp; omega

theorem load_valid (kv : List Task) (m : Mem) (hv : ∀ t ∈ kv, t.isValid = true) :
    load kv m = (kv.foldl appendTask {}, .ok) := by
  rw [load_eq, if_neg]
  simp only [List.any_eq_true, not_exists, not_and]
  intro t ht
  simp [hv t ht]

theorem load_invalid (kv : List Task) (m : Mem) (hv : ∃ t ∈ kv, t.isValid = false) :
    load kv m = (m, .err .invalidTask) := by
  rw [load_eq, if_pos]
  obtain ⟨t, ht, h⟩ := hv
  simp only [List.any_eq_true]
  exact ⟨t, ht, by simp [h]⟩

theorem load_inv (kv : List Task) (m : Mem) (hv : ∀ t ∈ kv, t.isValid = true)
    (nd : (kv.map (·.id)).Nodup) :
    (load kv m).2 = .ok ∧ (load kv m).1.Inv ∧ (load kv m).1.tasks = kv := by
  rw [load_valid kv m hv]
  refine ⟨rfl, foldl_appendTask_inv kv inv_empty (fun _ _ h => by cases h) nd, ?_⟩
  show (kv.foldl appendTask {}).tasks = kv
  rw [foldl_appendTask_tasks]
  rfl

theorem load_refines (kv : List Task) (m : Mem) :
    (load kv m).2 = (Repo.load kv m.abs).2 ∧ (load kv m).1.abs = (Repo.load kv m.abs).1 := by
  rw [load_eq]
  unfold Repo.load
  split
  · exact ⟨rfl, rfl⟩
  · refine ⟨rfl, ?_⟩
    show abs (kv.foldl appendTask {}) = { tasks := kv }
    unfold abs
    rw [foldl_appendTask_tasks]
    rfl

inductive Ev
  | op (now : Time) (o : Op)
  | load (kv : List Task)

def stepEv (fl : Flags) (m : Mem) : Ev → Mem × Out
  | .op now o => step fl m now o
  | .load kv => load kv m

def _root_.Gk.Repo.stepEv (fl : Flags) (r : Repo) : Ev → Repo × Out
  | .op now o => Repo.step fl r now o
  | .load kv => Repo.load kv r

def runEv (fl : Flags) (m : Mem) : List Ev → Mem
  | [] => m
  | e :: rest => runEv fl (stepEv fl m e).1 rest

def _root_.Gk.Repo.runEv (fl : Flags) (r : Repo) : List Ev → Repo
  | [] => r
  | e :: rest => Repo.runEv fl (Repo.stepEv fl r e).1 rest

def FreshEv (m : Mem) : Ev → Prop
  | .op _ o => o.isMem = true ∧ FreshOp m o
  | .load kv => (kv.map (·.id)).Nodup

def FreshEvs (fl : Flags) (m : Mem) : List Ev → Prop
  | [] => True
  | e :: rest => FreshEv m e ∧ FreshEvs fl (stepEv fl m e).1 rest

theorem stepEv_inv (fl : Flags) {m : Mem} (inv : m.Inv) (e : Ev) (hf : FreshEv m e) :
    (stepEv fl m e).1.Inv := by
  cases e with
  | op now o => exact step_inv fl inv now o hf.2
  | load kv =>
    show (load kv m).1.Inv
    by_cases hv : ∀ t ∈ kv, t.isValid = true
    · exact (load_inv kv m hv hf).2.1
    · rw [load_invalid kv m (by simpa using hv)]
      exact inv

theorem stepEv_refines (fl : Flags) {m : Mem} (inv : m.Inv) (e : Ev) (hf : FreshEv m e) :
    (stepEv fl m e).2 = (Repo.stepEv fl m.abs e).2 ∧
    (stepEv fl m e).1.abs = (Repo.stepEv fl m.abs e).1 := by
  cases e with
  | op now o => exact refines fl inv now o hf.1
  | load kv => exact load_refines kv m

theorem runEv_inv (fl : Flags) {m : Mem} (inv : m.Inv) (h : List Ev) (hf : FreshEvs fl m h) :
    (runEv fl m h).Inv := by
  induction h generalizing m with
  | nil => exact inv
  | cons e rest ih => exact ih (stepEv_inv fl inv e hf.1) hf.2

theorem runEv_refines (fl : Flags) {m : Mem} (inv : m.Inv) (h : List Ev) (hf : FreshEvs fl m h) :
    (runEv fl m h).abs = Repo.runEv fl m.abs h := by
  induction h generalizing m with
  | nil => rfl
  | cons e rest ih =>
    have r := stepEv_refines fl inv e hf.1
    simp only [runEv, Repo.runEv]
    rw [← r.2]
    exact ih (stepEv_inv fl inv e hf.1) hf.2

end Mem
end Gk
