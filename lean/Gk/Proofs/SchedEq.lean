/-
`World.sched` at each program counter: the arm of its `match` that the action enabled there takes, as an equation.
-/
import Gk.World
namespace Gk.World

variable {w : World}

theorem sched_cancelCtx : w.sched .cancelCtx = ({ w with ctxDone := true }, .unit) := by
  cases w; rename_i pc _ _ _ _ _ _ _; cases pc <;> rfl

theorem afterPrologue_none (h : w.lastTask = none) :
    w.afterPrologue = { w with getNextErr := false, pc := .s_select } := by
  cases w; cases h; rfl

theorem afterPrologue_some {t : Task} (h : w.lastTask = some t) :
    w.afterPrologue = { w with getNextErr := false, lastTask := none, pc := .d_wait t false } := by
  cases w; cases h; rfl

theorem sched_beginStep (h : w.pc = .idle) (hg : w.getNextErr = false) :
    w.sched .beginStep = ({ w with ctxDone := false, pc := .s_lastErr0 }, .unit) := by
  cases w; cases h; cases hg; rfl

theorem sched_beginStep_restart (h : w.pc = .idle) (hg : w.getNextErr = true) :
    w.sched .beginStep = ({ w with ctxDone := false, pc := .s_stop }, .unit) := by
  cases w; cases h; cases hg; rfl

theorem sched_lastErr0 (h : w.pc = .s_lastErr0) : w.sched .lastTimerErr =
    (if w.obs.hook.lastErr.isSome then { w with pc := .s_stop } else w.afterPrologue, .err w.obs.hook.lastErr) := by
  cases w; cases h; rfl

theorem sched_stop (h : w.pc = .s_stop) : w.sched .stopTimer =
    ({ w with obs := w.obs.stopTimer, pc := .s_start }, .unit) := by
  cases w; cases h; rfl

theorem sched_start (h : w.pc = .s_start) (hf : Option Err) : w.sched (.startTimer hf) =
    ({ w with obs := w.obs.startTimer hf, pc := .s_lastErr1 }, .unit) := by
  cases w; cases h; rfl

theorem sched_lastErr1 (h : w.pc = .s_lastErr1) : w.sched .lastTimerErr =
    match w.obs.hook.lastErr with
    | some e => (w.finish (.timerUpdateError e), .err (some e))
    | none => (w.afterPrologue, .err none) := by
  cases w; cases h; rfl

theorem sched_selCtx (h : w.pc = .s_select) : w.sched .selCtx = (w.finish .awaitingNext, .unit) := by
  cases w; cases h; rfl

theorem sched_selTimer (h : w.pc = .s_select) : w.sched .selTimer =
    if w.obs.clock.consume.2 then
      ({ w with obs := { w.obs with clock := w.obs.clock.consume.1 }, pc := .s_getNext }, .unit)
    else ({ w with stuck := true }, .stuck) := by
  cases w; cases h; rfl

theorem sched_selResult (h : w.pc = .s_select) (id : String) : w.sched (.selResult id) =
    match w.completed.find? (·.1 == id) with
    | none => ({ w with stuck := true }, .stuck)
    | some (_, o) =>
      let w := { w with completed := w.completed.filter (·.1 != id), reported := w.reported ++ [(id, o)] }
      if o == .ctxCanceled then (w.finish (.taskDone id o none), .unit)
      else ({ w with pc := .s_markDone id o }, .unit) := by
  cases w; cases h; rfl

theorem sched_getNext (h : w.pc = .s_getNext) (f : Fault) : w.sched (.getNext f) =
    if f != .none then
      (({ w with lastTask := none, getNextErr := true }).finish (.nextTask none (some .other)), .err (some .other))
    else
      match w.obs.repo.getNext with
      | none =>
        (({ w with lastTask := none, getNextErr := true }).finish (.nextTask none (some .exhausted)),
          .err (some .exhausted))
      | some t => ({ w with pc := .s_nextSched t }, .task t) := by
  cases w; cases h; rfl

theorem sched_nextSched {t : Task} (h : w.pc = .s_nextSched t) : w.sched .nextScheduled =
    if !w.obs.nextScheduled.2 || w.obs.nextScheduled.1 != t.scheduledAt ||
        !(!w.fix.dueCheck || t.scheduledAt ≤ w.obs.clock.now) then
      (({ w with getNextErr := w.fix.restartOnChanged }).finish (.nextTask none (some .schedChanged)),
        .nextSched w.obs.nextScheduled.1 w.obs.nextScheduled.2)
    else (({ w with lastTask := some t, getNextErr := false }).finish (.nextTask (some t) none),
      .nextSched w.obs.nextScheduled.1 w.obs.nextScheduled.2) := by
  cases w; cases h; rfl

theorem sched_markDone {id : String} {o : Outcome} (h : w.pc = .s_markDone id o) (f : Fault) :
    w.sched (.markDone f) =
      if f == .before then (w.finish (.taskDone id o (some .other)), .err (some .other))
      else if w.ctxDone then (w.finish (.taskDone id o (some .ctx)), .err (some .ctx))
      else
        let (r, out) := Repo.step {} w.obs.repo w.obs.clock.now (.done id (outcomeErr o))
        let w := { w with obs := { w.obs with repo := r } }
        let e := if f == .after then some Err.other else (match out with | .err e => some e | _ => none)
        (w.finish (.taskDone id o e), .err e) := by
  cases w; cases h; rfl

theorem sched_wait_ctx {t : Task} {retry : Bool} (h : w.pc = .d_wait t retry) :
    w.sched (.waitWorker false) = (w.finishDE (.dispatchErr t .ctx), .err (some .ctx)) := by
  cases w; cases h; rfl

theorem sched_wait {t : Task} {retry : Bool} (h : w.pc = .d_wait t retry) :
    w.sched (.waitWorker true) = ({ w with pc := if retry then .d_get t else .d_mark t retry }, .unit) := by
  cases w; cases h; cases retry <;> rfl

theorem sched_mark {t : Task} {retry : Bool} (h : w.pc = .d_mark t retry) (f : Fault) (hf : Option Err) :
    w.sched (.markDispatched f hf) =
      if f == .before then (w.finishDE (.dispatchErr t .other), .err (some .other))
      else if w.ctxDone then (w.finishDE (.dispatchErr t .ctx), .err (some .ctx))
      else
        let (o', out) := w.obs.step (.dispatch t.id) hf
        let w := { w with obs := o' }
        let e : Option Err := if f == .after then some .other else (match out with | .err e => some e | _ => none)
        match e with
        | some e => (w.finishDE (.dispatchErr t e), .err (some e))
        | none => ({ w with pc := .d_get t }, .err none) := by
  cases w; cases h; rfl

theorem sched_markCore {t : Task} {retry : Bool} (h : w.pc = .d_mark t retry) : w.sched .markDispatchedCore =
    if w.ctxDone then (w.finishDE (.dispatchErr t .ctx), .err (some .ctx))
    else
      let (r, out) := Repo.step {} w.obs.repo w.obs.clock.now (.dispatch t.id)
      let w := { w with obs := { w.obs with repo := r } }
      let e : Err := match out with | .err e => e | _ => .other
      (w.finishDE (.dispatchErr t e), .err (some e)) := by
  cases w; cases h; rfl

theorem sched_get {t : Task} (h : w.pc = .d_get t) (f : Fault) : w.sched (.getById f) =
    if f != .none then (w.finishDE (.dispatchErr t .other), .err (some .other))
    else if w.ctxDone then (w.finishDE (.dispatchErr t .ctx), .err (some .ctx))
    else
      match w.obs.repo.lookup t.id with
      | none => (w.finishDE (.dispatchErr t .idNotFound), .err (some .idNotFound))
      | some cur =>
        let w := { w with running := w.running ++ [(t.id, cur)],
                          log := w.log ++ [({ id := t.id, at_ := w.obs.clock.now, task := cur } : RunEntry)] }
        (w.finish (.dispatched t.id), .task cur) := by
  cases w; cases h; rfl

theorem sched_beginRetry_timer {e : Err} (h : w.pc = .idle) (hr : w.ret = .timerUpdateError e) :
    w.sched .beginRetry = ({ w with ctxDone := false, pc := .r_stop }, .unit) := by
  cases w; cases h; cases hr; rfl

theorem sched_beginRetry_disp {t : Task} {e : Err} (h : w.pc = .idle) (hr : w.ret = .dispatchErr t e) :
    w.sched .beginRetry = ({ w with ctxDone := false, pc := .r_getById t }, .unit) := by
  cases w; cases h; cases hr; rfl

theorem sched_beginRetry_done {id : String} {o : Outcome} {e : Option Err} (h : w.pc = .idle)
    (hr : w.ret = .taskDone id o e) :
    w.sched .beginRetry = ({ w with ctxDone := false, pc := .r_markDone id o }, .unit) := by
  cases w; cases h; cases hr; rfl

/-- the states `Retry` has nothing to do for -/
theorem sched_beginRetry_zero (h : w.pc = .idle)
    (hr : w.ret = .zero ∨ w.ret = .awaitingNext ∨ (∃ t e, w.ret = .nextTask t e) ∨ ∃ id, w.ret = .dispatched id) :
    w.sched .beginRetry = (({ w with ctxDone := false }).finish .zero, .unit) := by
  cases w; cases h
  rcases hr with hr | hr | ⟨_, _, hr⟩ | ⟨_, hr⟩ <;> cases hr <;> rfl

theorem sched_rstop (h : w.pc = .r_stop) : w.sched .stopTimer =
    ({ w with obs := w.obs.stopTimer, pc := .r_start }, .unit) := by
  cases w; cases h; rfl

theorem sched_rstart (h : w.pc = .r_start) (hf : Option Err) : w.sched (.startTimer hf) =
    ({ w with obs := w.obs.startTimer hf, pc := .r_lastErr }, .unit) := by
  cases w; cases h; rfl

theorem sched_rlastErr (h : w.pc = .r_lastErr) : w.sched .lastTimerErr =
    match w.obs.hook.lastErr with
    | some e => (w.finish (.timerUpdateError e), .err (some e))
    | none => (w.finish .zero, .err none) := by
  cases w; cases h; rfl

theorem sched_rget {t : Task} (h : w.pc = .r_getById t) (f : Fault) : w.sched (.getById f) =
    if f != .none then (w.finish (.dispatchErr t .other), .err (some .other))
    else if w.ctxDone then (w.finish (.dispatchErr t .ctx), .err (some .ctx))
    else
      match w.obs.repo.lookup t.id with
      | none => ({ w with pc := .d_wait zeroTask (!w.fix.retryMarks) }, .err (some .idNotFound))
      | some cur =>
        ({ w with pc := .d_wait t (if w.fix.retryMarks then cur.state == .dispatched else true) }, .task cur) := by
  cases w; cases h; rfl

theorem sched_rmarkDone {id : String} {o : Outcome} (h : w.pc = .r_markDone id o) (f : Fault) :
    w.sched (.markDone f) =
      if f == .before then (w.finish (.taskDone id o (some .other)), .err (some .other))
      else if w.ctxDone then (w.finish (.taskDone id o (some .ctx)), .err (some .ctx))
      else
        let (r, out) := Repo.step {} w.obs.repo w.obs.clock.now (.done id (outcomeErr o))
        let w := { w with obs := { w.obs with repo := r } }
        let e := if f == .after then some Err.other else (match out with | .err e => some e | _ => none)
        if e.isSome && e != some .alreadyDone then (w.finish (.taskDone id o e), .err e)
        else (w.finish .zero, .err e) := by
  cases w; cases h; rfl

/-! ### the answers that depend on the repository, with the repository forgotten: what is left is where the call
leaves the program counter and the registers -/

theorem sched_markDone_fin {id : String} {o : Outcome} (h : w.pc = .s_markDone id o) (f : Fault) :
    ∃ ob e, w.sched (.markDone f) = (({ w with obs := ob }).finish (.taskDone id o e), .err e) := by
  rw [sched_markDone h]
  by_cases h1 : (f == .before) = true
  · rw [if_pos h1]; exact ⟨_, _, rfl⟩
  by_cases h2 : w.ctxDone = true
  · rw [if_neg h1, if_pos h2]; exact ⟨_, _, rfl⟩
  · rw [if_neg h1, if_neg h2]; exact ⟨_, _, rfl⟩

theorem sched_rmarkDone_fin {id : String} {o : Outcome} (h : w.pc = .r_markDone id o) (f : Fault) :
    ∃ ob, ∃ e : Option Err, w.sched (.markDone f) =
      if e.isSome && e != some Err.alreadyDone then (({ w with obs := ob }).finish (.taskDone id o e), .err e)
      else (({ w with obs := ob }).finish .zero, .err e) := by
  rw [sched_rmarkDone h]
  by_cases h1 : (f == .before) = true
  · rw [if_pos h1]; exact ⟨_, some .other, rfl⟩
  by_cases h2 : w.ctxDone = true
  · rw [if_neg h1, if_pos h2]; exact ⟨_, some .ctx, rfl⟩
  · rw [if_neg h1, if_neg h2]; exact ⟨_, _, rfl⟩

theorem sched_mark_fin {t : Task} {retry : Bool} (h : w.pc = .d_mark t retry) (f : Fault) (hf : Option Err) :
    (∃ ob e, w.sched (.markDispatched f hf) = (({ w with obs := ob }).finishDE (.dispatchErr t e), .err (some e))) ∨
      ∃ ob, w.sched (.markDispatched f hf) = ({ w with obs := ob, pc := .d_get t }, .err none) := by
  rw [sched_mark h]
  by_cases h1 : (f == .before) = true
  · rw [if_pos h1]; exact .inl ⟨_, _, rfl⟩
  by_cases h2 : w.ctxDone = true
  · rw [if_neg h1, if_pos h2]; exact .inl ⟨_, _, rfl⟩
  · rw [if_neg h1, if_neg h2]
    dsimp only
    split
    · exact .inl ⟨_, _, rfl⟩
    · exact .inr ⟨_, rfl⟩

theorem sched_get_fin {t : Task} (h : w.pc = .d_get t) (f : Fault) :
    (∃ e, w.sched (.getById f) = (w.finishDE (.dispatchErr t e), .err (some e))) ∨
      ∃ r l cur, w.sched (.getById f) = (({ w with running := r, log := l }).finish (.dispatched t.id), .task cur) := by
  rw [sched_get h]
  by_cases h1 : (f != .none) = true
  · rw [if_pos h1]; exact .inl ⟨_, rfl⟩
  by_cases h2 : w.ctxDone = true
  · rw [if_neg h1, if_pos h2]; exact .inl ⟨_, rfl⟩
  · rw [if_neg h1, if_neg h2]
    cases w.obs.repo.lookup t.id with
    | none => exact .inl ⟨_, rfl⟩
    | some cur => exact .inr ⟨_, _, _, rfl⟩

theorem sched_rget_fin {t : Task} (h : w.pc = .r_getById t) (hfix : w.fix = {}) (f : Fault) :
    (∃ e, isDefError e = false ∧ w.sched (.getById f) = (w.finish (.dispatchErr t e), .err (some e))) ∨
      w.sched (.getById f) = ({ w with pc := .d_wait zeroTask false }, .err (some .idNotFound)) ∨
      ∃ cur, w.sched (.getById f) = ({ w with pc := .d_wait t (cur.state == .dispatched) }, .task cur) := by
  rw [sched_rget h, hfix]
  by_cases h1 : (f != .none) = true
  · rw [if_pos h1]; exact .inl ⟨_, rfl, rfl⟩
  by_cases h2 : w.ctxDone = true
  · rw [if_neg h1, if_pos h2]; exact .inl ⟨_, rfl, rfl⟩
  · rw [if_neg h1, if_neg h2]
    cases w.obs.repo.lookup t.id with
    | none => exact .inr (.inl rfl)
    | some cur => exact .inr (.inr ⟨cur, rfl⟩)

end Gk.World
