/-
The two-statement protocol of the SQL repository (`Gk.Ent`, C10ent) against `Repo.step`: the first statement and the
classifying read are the atomic operation where they are taken (`stmt_spec`, `classify_spec`), a missed guard stays
missed under the other clients' statements (`missOk_step`, `run_keeps_miss`), and the simulation invariant `Inv` of
the system with its consequence `Inv.witness`: a sequential order of the decided calls.
-/
import Gk.EntProto
import Gk.Proofs.Repo
import Gk.Proofs.Lin
namespace Gk.Ent
open Gk.Lin

theorem lookup_replace_map (r : Repo) (id' id : String) (f : Task → Task)
    (hf : ∀ t, (f t).id = t.id) :
    (r.replace id' f).lookup id = (r.lookup id).map (fun t => if t.id == id' then f t else t) :=
  Repo.lookup_replace_map r id' id hf

theorem lookup_append (r : Repo) (t : Task) (id : String) :
    ({ tasks := r.tasks ++ [t] } : Repo).lookup id =
      (r.lookup id).or (if t.id == id then some t else none) :=
  Repo.lookup_append r t id

theorem stmt_done (r : Repo) (now : Time) (id : String) (e : Option String) : stmt r now (.done id e) =
    if guard r id .dispatched then .fin (r.replace id (setDone now e)) .ok else .miss := rfl

/-- `MarkAsDone`'s classifying read: go round again exactly when the guard of its UPDATE holds now. -/
theorem classify_done (r : Repo) (id : String) (e : Option String) :
    classify r (.done id e) =
      if guard r id .dispatched then none else some (refusal errKindMarkAsDone (r.lookup id)) := by
  simp only [classify]
  unfold guard
  cases r.lookup id <;> rfl

theorem mutate_hit {r : Repo} {id : String} (f : Task → Task) (h : guard r id .scheduled = true) :
    r.mutateScheduled id f = (r.replace id f, .ok) := by
  rw [mutateScheduled_eq, if_pos h]

theorem mutate_miss {r : Repo} {id : String} (f : Task → Task) (h : guard r id .scheduled = false) :
    r.mutateScheduled id f = (r, refusal errKindMutate (r.lookup id)) := by
  rw [mutateScheduled_eq, h]; rfl

theorem done_hit {r : Repo} {id : String} (now : Time) (e : Option String)
    (h : guard r id .dispatched = true) :
    Repo.step {} r now (.done id e) = (r.replace id (setDone now e), .ok) := by
  rw [step_done_eq, if_pos h]

theorem done_miss {r : Repo} {id : String} (now : Time) (e : Option String)
    (h : guard r id .dispatched = false) :
    Repo.step {} r now (.done id e) = (r, refusal errKindMarkAsDone (r.lookup id)) := by
  rw [step_done_eq, h]; rfl

theorem setUpdate_nothing {p : Param} (hp : nothingToSet p = true) {t : Task}
    (ht : t.timesNormalized = true) : setUpdate p t = t := by
  obtain ⟨w, pr, pa, me, s, d⟩ := p
  simp only [nothingToSet, Param.normalize, Bool.and_eq_true, Option.isNone_iff_eq_none,
    Option.map_eq_none_iff] at hp
  obtain ⟨⟨⟨⟨⟨rfl, rfl⟩, rfl⟩, rfl⟩, rfl⟩, rfl⟩ := hp
  simp only [Task.timesNormalized, Bool.and_eq_true, isNorm_iff, optNorm_iff] at ht
  obtain ⟨⟨⟨⟨⟨h1, h2⟩, h3⟩, h4⟩, h5⟩, h6⟩ := ht
  simp only [setUpdate, Task.update, Task.normalizeTime, Param.normalize, Option.getD_none, Option.map_none, h1, h2, h3,
    h4, h5, h6]

theorem replace_self {r : Repo} {id : String} {f : Task → Task}
    (h : ∀ t ∈ r.tasks, f t = t) : r.replace id f = r := by
  rw [Repo.replace_congr (g := fun t => t) h]
  simp [Repo.replace]

/-- What the missed phase knows about the database. -/
def missOk (r : Repo) : Op → Prop
  | .update id p => p.validForUpdate = true ∧ guard r id .scheduled = false
  | .cancel id | .dispatch id => guard r id .scheduled = false
  | .done _ _ => True
  | _ => False

/-- The first statement against `Repo.step`: a decided one is the atomic operation (well-formedness is only used by
the read-only path of `UpdateById`), and only the four conditional operations miss, with a false guard. -/
theorem stmt_spec (r : Repo) (now : Time) (op : Op) :
    match stmt r now op with
    | .fin r' out => r.WF → Repo.step {} r now op = (r', out)
    | .miss => missOk r op := by
  -- the UPDATE guarded by `st`, where `Repo.step` has the same guard
  have cond : ∀ {st : St} {id : String} {a : Repo} {b : Repo × Out} {P : Prop}, (guard r id st = false → P) →
      match (if guard r id st then StmtRes.fin a .ok else .miss) with
      | .fin r' out => r.WF → (if guard r id st then (a, Out.ok) else b) = (r', out)
      | .miss => P := by
    intro st id a b P hP
    cases hg : guard r id st
    · exact hP hg
    · exact fun _ => rfl
  cases op with
  | update id p =>
    simp only [stmt, Repo.step, mutateScheduled_eq, ← setUpdate.eq_def]
    cases hv : p.validForUpdate with
    | false => exact fun _ => rfl
    | true =>
      simp only [Bool.not_true, Bool.false_eq_true, if_false]
      by_cases hn : nothingToSet p = true
      · -- the read-only path returns what the UPDATE would: on a hit the UPDATE changes nothing
        simp only [hn, if_true]
        intro h
        cases hg : guard r id .scheduled
        · cases hl : r.lookup id with
          | none => rfl
          | some t => simp [bne_iff_ne.mpr (guard_eq_false.mp hg t hl)]
        · obtain ⟨t, hl, hst⟩ := guard_eq_true.mp hg
          rw [replace_self (f := setUpdate p) fun t ht => setUpdate_nothing hn ((Task.wellFormed_iff t).mp (h.1 t ht)).2.1]
          simp [hl, hst]
      · simp only [hn, Bool.false_eq_true, if_false]
        exact cond fun hg => ⟨hv, hg⟩
  | cancel id | dispatch id => simp only [stmt, Repo.step, mutateScheduled_eq]; exact cond fun hg => hg
  | done id e => exact step_done_eq {} r now id e ▸ cond fun _ => trivial
  | add _ _ | get _ | find _ _ _ | next | revert | cancelDispatched | deleteEnded => exact fun _ => rfl

theorem stmt_fin_spec {r r' : Repo} (h : r.WF) {now : Time} {op : Op} {out : Out}
    (hs : stmt r now op = .fin r' out) : Repo.step {} r now op = (r', out) := by
  have := stmt_spec r now op
  rw [hs] at this
  exact this h

theorem stmt_miss_spec {r : Repo} {now : Time} {op : Op} (hs : stmt r now op = .miss) :
    missOk r op := by
  have := stmt_spec r now op
  rwa [hs] at this

/-- The classifying read, run in a state in which the guard is (still) false, is the atomic operation:
it returns what `Repo.step` returns there, and `Repo.step` changes nothing. -/
theorem classify_spec {r : Repo} {op : Op} (hm : missOk r op) (now : Time) {out : Out}
    (hc : classify r op = some out) : Repo.step {} r now op = (r, out) := by
  cases op with
  | update id p =>
    cases hc
    simp only [Repo.step, hm.1, Bool.not_true, Bool.false_eq_true, if_false]
    exact mutate_miss _ hm.2
  | cancel id | dispatch id => cases hc; exact mutate_miss _ hm
  | done id e =>
    rw [classify_done] at hc
    rw [step_done_eq]
    split at hc
    · cases hc
    · cases hc; rw [if_neg ‹_›]
  | add _ _ | get _ | find _ _ _ | next | revert | cancelDispatched | deleteEnded => exact hm.elim

theorem setUpdate_id (p : Param) (t : Task) : (setUpdate p t).id = t.id := rfl
theorem setCancel_id (now : Time) (t : Task) : (setCancel now t).id = t.id := rfl
theorem setDispatch_id (now : Time) (t : Task) : (setDispatch now t).id = t.id := rfl
theorem setDone_id (now : Time) (e : Option String) (t : Task) : (setDone now e t).id = t.id := by
  cases e <;> rfl

/-- A false `state = scheduled` guard on `id` stays false under every lifecycle step, except that an
unknown `id` may be inserted. -/
theorem guard_false_step {r : Repo} {id : String} (h : guard r id .scheduled = false)
    (now : Time) {op : Op} (hl : lifecycle op = true)
    (hadd : r.lookup id = none → ∀ p, op ≠ .add id p) :
    guard (Repo.step {} r now op).1 id .scheduled = false := by
  cases ho : r.lookup id with
  | some t => exact (Left.step ⟨t, ho, guard_eq_false.mp h t ho⟩ now hl).guard
  | none =>
    rw [guard_eq_false, step_lookup {} r now op hl, ho]
    intro t ht
    obtain ⟨p, rfl, -⟩ := stepNew_some ht
    exact absurd rfl (hadd ho p)

theorem missOk_step {r : Repo} {op : Op} (h : missOk r op) (now : Time) {op' : Op}
    (hl : lifecycle op' = true) (hadd : ∀ id p, op' = .add id p → opTarget op ≠ some id) :
    missOk (Repo.step {} r now op').1 op := by
  cases op with
  | update id p =>
    exact ⟨h.1, guard_false_step h.2 now hl
      (fun _ p' e => hadd id p' e rfl)⟩
  | cancel id | dispatch id => exact guard_false_step h now hl (fun _ p' e => hadd id p' e rfl)
  | done id e => trivial
  | add _ _ | get _ | find _ _ _ | next | revert | cancelDispatched | deleteEnded => exact h.elim

theorem run_keeps_miss {r : Repo} {id : String} (mid : List (Time × Op))
    (hl : ∀ x ∈ mid, lifecycle x.2 = true)
    (h1 : (r.lookup id).isSome = true) (h2 : guard r id .scheduled = false) :
    ((Repo.run {} r mid).lookup id).isSome = true ∧
      guard (Repo.run {} r mid) id .scheduled = false := by
  obtain ⟨t, ht⟩ := Option.isSome_iff_exists.mp h1
  have hns := guard_eq_false.mp h2 t ht
  obtain ⟨t', ht', hs⟩ := lookup_run mid hl ht hns
  exact ⟨ht' ▸ rfl, Left.guard ⟨t', ht', hs.ne_scheduled hns⟩⟩

theorem filterMap_cons' {α β} (f : α → Option β) (a : α) (l : List α) :
    (a :: l).filterMap f = (f a).toList ++ l.filterMap f := by
  rw [List.filterMap_cons]; cases f a <;> rfl

/-- Replacing the element at one position changes a `filterMap` by that element's contribution. -/
theorem perm_filterMap_set {α β} (f : α → Option β) (l : List α) (c : Nat) (x y : α) (h : l[c]? = some x) :
    ((f x).toList ++ (l.set c y).filterMap f).Perm ((f y).toList ++ l.filterMap f) := by
  have hy : (l.set c y)[c]? = some y := List.getElem?_set_self (List.getElem?_eq_some_iff.mp h).1
  have h1 := (cons_eraseIdx_perm hy).symm.filterMap f
  have h2 := (cons_eraseIdx_perm h).symm.filterMap f
  rw [List.eraseIdx_set_eq, filterMap_cons'] at h1
  rw [filterMap_cons'] at h2
  exact (h1.append_left _).trans ((List.perm_append_comm_assoc _ _ _).trans (h2.append_left _).symm)

theorem perm_map_inv {α β} (f : α → β) : ∀ (l₁ : List β) (l₂ : List α), l₁.Perm (l₂.map f) →
    ∃ l : List α, l.Perm l₂ ∧ l.map f = l₁
  | [], l₂, h => by
    have := h.symm.eq_nil
    simp only [List.map_eq_nil_iff] at this
    subst this
    exact ⟨[], .refl _, rfl⟩
  | b :: l₁, l₂, h => by
    have hb : b ∈ l₂.map f := h.mem_iff.mp List.mem_cons_self
    obtain ⟨a, ha, rfl⟩ := List.mem_map.mp hb
    obtain ⟨i, hi⟩ := List.mem_iff_getElem?.mp ha
    have hp := cons_eraseIdx_perm hi
    have h' : l₁.Perm ((l₂.eraseIdx i).map f) := (h.trans (hp.symm.map f)).cons_inv
    obtain ⟨l, hl, hm⟩ := perm_map_inv f l₁ _ h'
    exact ⟨a :: l, (hl.cons a).trans hp, by simp [hm]⟩

/-- A linearized operation: a call whose result has been decided, at the stamp `lin`. -/
structure E where
  call : Nat
  now : Time
  op : Op
  out : Out
  lin : Nat

def toE (x : LOp × Nat) : E := ⟨x.1.call, x.1.now, x.1.op, x.1.out, x.2⟩

def Phase.toE? : Phase → Option E
  | .finished k now op out lin => some ⟨k, now, op, out, lin⟩
  | _ => none

def runE (r : Repo) (σ : List E) : Repo := σ.foldl (fun r e => (Repo.step {} r e.now e.op).1) r

def okE : Repo → List E → Prop
  | _, [] => True
  | r, e :: rest => e.out = (Repo.step {} r e.now e.op).2 ∧ okE (Repo.step {} r e.now e.op).1 rest

theorem runE_append (r : Repo) (a b : List E) : runE r (a ++ b) = runE (runE r a) b :=
  List.foldl_append ..

theorem okE_append : ∀ (r : Repo) (a b : List E), okE r (a ++ b) ↔ okE r a ∧ okE (runE r a) b
  | _, [], _ => by simp [okE, runE]
  | r, e :: a, b => by
    simp only [List.cons_append, okE, runE, List.foldl_cons, and_assoc]
    exact and_congr_right fun _ => okE_append _ a b

theorem replays_of_okE : ∀ (σ : List (LOp × Nat)) (r : Repo), okE r (σ.map toE) →
    replays sameExact r (σ.map (·.1)) = true
  | [], _, _ => rfl
  | x :: σ, r, h => by
    simp only [List.map_cons, okE] at h
    simp only [List.map_cons]
    rw [replays_cons]
    refine ⟨?_, replays_of_okE σ _ h.2⟩
    have : x.1.out = (Repo.step {} r x.1.now x.1.op).2 := h.1
    simp [sameExact, this]

theorem runE_map_toE (σ : List (LOp × Nat)) (r : Repo) :
    runE r (σ.map toE) = Repo.run {} r ((σ.map (·.1)).map fun o => (o.now, o.op)) := by
  rw [Repo.run_eq_foldl, List.foldl_map, List.foldl_map, runE, List.foldl_map]
  rfl

def phaseOk (clock : Nat) (r : Repo) : Phase → Prop
  | .idle => True
  | .called k _ op => k < clock ∧ lifecycle op = true
  | .missed k _ op => k < clock ∧ lifecycle op = true ∧ missOk r op
  | .finished _ _ _ _ _ => True

theorem phaseOk_mono {k k' : Nat} {r : Repo} {ph : Phase} (h : phaseOk k r ph) (hk : k ≤ k') :
    phaseOk k' r ph := by
  cases ph with
  | idle => trivial
  | called c now op => exact ⟨Nat.lt_of_lt_of_le h.1 hk, h.2⟩
  | missed c now op => exact ⟨Nat.lt_of_lt_of_le h.1 hk, h.2⟩
  | finished => trivial

/-- `σ` = the calls whose result has been decided, in the order of the deciding statements. -/
structure Inv (s : Sys) (σ : List E) : Prop where
  /-- they are the returned calls and the finished, not yet returned ones -/
  perm : σ.Perm (s.hist.map toE ++ s.phases.filterMap Phase.toE?)
  sorted : σ.Pairwise (fun a b => a.lin < b.lin)
  bound : ∀ e ∈ σ, e.call ≤ e.lin ∧ e.lin < s.clock ∧ lifecycle e.op = true
  /-- the database is the replay of the linearized operations, with the results they reported -/
  ok : okE {} σ
  final : runE {} σ = s.repo
  wf : s.repo.WF
  ret : ∀ x ∈ s.hist, x.2 ≤ x.1.ret
  phases : ∀ ph ∈ s.phases, phaseOk s.clock s.repo ph

theorem Inv.init (n : Nat) : Inv (init n) [] where
  perm := by simp [Ent.init, List.filterMap_replicate, Phase.toE?]
  sorted := List.Pairwise.nil
  bound := fun _ h => by cases h
  ok := trivial
  final := rfl
  wf := Repo.WF_empty
  ret := fun _ h => by cases h
  phases := by
    intro ph hph
    simp only [Ent.init, List.mem_replicate] at hph
    rw [hph.2]; trivial

/-- A client changes phase, nothing is decided. -/
theorem Inv.tick_quiet {s : Sys} {σ : List E} (h : Inv s σ) {c : Nat} {x y : Phase}
    (hc : s.phases[c]? = some x) (hx : x.toE? = none) (hy : y.toE? = none)
    (hok : phaseOk (s.clock + 1) s.repo y) : Inv (s.tick c y) σ where
  perm := by
    have := perm_filterMap_set Phase.toE? s.phases c x y hc
    rw [hx, hy] at this
    exact h.perm.trans (this.symm.append_left _)
  sorted := h.sorted
  bound := fun e he => ⟨(h.bound e he).1, Nat.lt_succ_of_lt (h.bound e he).2.1, (h.bound e he).2.2⟩
  ok := h.ok
  final := h.final
  wf := h.wf
  ret := h.ret
  phases := by
    intro ph hph
    rcases List.mem_or_eq_of_mem_set hph with hph | rfl
    · exact phaseOk_mono (h.phases ph hph) (Nat.le_succ _)
    · exact hok

/-- A statement decides a call: it is `Repo.step` on the current database. -/
theorem Inv.tick_fin {s : Sys} {σ : List E} (h : Inv s σ) {c : Nat} {x : Phase}
    (hc : s.phases[c]? = some x) (hx : x.toE? = none) {k : Nat} {now : Time} {op : Op} {out : Out}
    {r' : Repo} (hk : k < s.clock) (hl : lifecycle op = true)
    (hstep : Repo.step {} s.repo now op = (r', out))
    (hfresh : ∀ id p, op = .add id p →
      id ∉ s.repo.tasks.map (·.id) ∧ ∀ ph ∈ s.phases, ph.target ≠ some id) :
    Inv { s.tick c (.finished k now op out s.clock) with repo := r' }
      (σ ++ [⟨k, now, op, out, s.clock⟩]) := by
  obtain ⟨rfl, rfl⟩ : (Repo.step {} s.repo now op).1 = r' ∧ (Repo.step {} s.repo now op).2 = out := by
    rw [hstep]; exact ⟨rfl, rfl⟩
  refine ⟨?_, ?_, ?_, ?_, ?_, ?_, h.ret, ?_⟩
  · have := perm_filterMap_set Phase.toE? s.phases c x
      (.finished k now op (Repo.step {} s.repo now op).2 s.clock) hc
    rw [hx] at this
    exact (List.perm_append_singleton _ _).trans
      (((h.perm.cons _).trans List.perm_middle.symm).trans (this.symm.append_left _))
  · rw [List.pairwise_append]
    refine ⟨h.sorted, List.pairwise_singleton _ _, fun a ha b hb => ?_⟩
    cases List.mem_singleton.mp hb
    exact (h.bound a ha).2.1
  · intro e he
    rcases List.mem_append.mp he with he | he
    · exact ⟨(h.bound e he).1, Nat.lt_succ_of_lt (h.bound e he).2.1, (h.bound e he).2.2⟩
    · cases List.mem_singleton.mp he
      exact ⟨Nat.le_of_lt hk, Nat.lt_succ_self _, hl⟩
  · rw [okE_append, h.final]
    exact ⟨h.ok, rfl, trivial⟩
  · rw [runE_append, h.final]; rfl
  · have hf : op.fresh s.repo := by
      cases op with
      | add id p => exact (hfresh id p rfl).1
      | _ => trivial
    exact step_wf h.wf hf
  · intro ph hph
    rcases List.mem_or_eq_of_mem_set hph with hph | rfl
    · have h0 := h.phases ph hph
      cases ph with
      | idle => trivial
      | called c' now' op' => exact ⟨Nat.lt_succ_of_lt h0.1, h0.2⟩
      | missed c' now' op' =>
        exact ⟨Nat.lt_succ_of_lt h0.1, h0.2.1,
          missOk_step h0.2.2 now hl fun id p hop => (hfresh id p hop).2 _ hph⟩
      | finished => trivial
    · trivial

theorem Inv.tick_ret {s : Sys} {σ : List E} (h : Inv s σ) {c k : Nat} {now : Time} {op : Op}
    {out : Out} {lin : Nat} (hc : s.phases[c]? = some (.finished k now op out lin)) :
    Inv { s.tick c .idle with
      hist := s.hist ++ [({ call := k, ret := s.clock, now := now, op := op, out := out }, lin)] } σ where
  perm := by
    have := perm_filterMap_set Phase.toE? s.phases c _ .idle hc
    refine h.perm.trans ?_
    show List.Perm _ ((s.hist ++ [_]).map toE ++ _)
    rw [List.map_append, List.append_assoc]
    exact this.symm.append_left _
  sorted := h.sorted
  bound := fun e he => ⟨(h.bound e he).1, Nat.lt_succ_of_lt (h.bound e he).2.1, (h.bound e he).2.2⟩
  ok := h.ok
  final := h.final
  wf := h.wf
  ret := by
    intro x hx
    rcases List.mem_append.mp hx with hx | hx
    · exact h.ret x hx
    · cases List.mem_singleton.mp hx
      have hmem : (⟨k, now, op, out, lin⟩ : E) ∈ σ := by
        rw [h.perm.mem_iff]
        refine List.mem_append_right _ (List.mem_filterMap.mpr ⟨_, List.mem_of_getElem? hc, rfl⟩)
      exact Nat.le_of_lt (h.bound _ hmem).2.1
  phases := by
    intro ph hph
    rcases List.mem_or_eq_of_mem_set hph with hph | rfl
    · exact phaseOk_mono (h.phases ph hph) (Nat.le_succ _)
    · trivial

theorem Inv.next {s : Sys} {σ : List E} (h : Inv s σ) (a : Act) (hf : a.fresh s = true) :
    ∃ σ', Inv (Ent.step s a) σ' := by
  cases a with
  | call c now op =>
    simp only [Ent.step]
    split
    · rename_i hc
      split
      · rename_i hl
        exact ⟨σ, h.tick_quiet hc rfl rfl ⟨Nat.lt_succ_self _, hl⟩⟩
      · exact ⟨σ, h⟩
    · exact ⟨σ, h⟩
  | stmt c =>
    simp only [Ent.step]
    split
    · rename_i k now op hc
      have hph := h.phases _ (List.mem_of_getElem? hc)
      split
      · rename_i r' out hs
        refine ⟨_, h.tick_fin hc rfl hph.1 hph.2 (stmt_fin_spec h.wf hs) ?_⟩
        intro id p hop
        subst hop
        simp only [Act.fresh, hc, Bool.and_eq_true, Bool.not_eq_true', List.all_eq_true,
          bne_iff_ne, ne_eq] at hf
        exact ⟨by simpa using hf.1, hf.2⟩
      · rename_i hs
        exact ⟨σ, h.tick_quiet hc rfl rfl ⟨Nat.lt_succ_of_lt hph.1, hph.2, stmt_miss_spec hs⟩⟩
    · exact ⟨σ, h⟩
  | classify c now' =>
    simp only [Ent.step]
    split
    · rename_i k now op hc
      have hph := h.phases _ (List.mem_of_getElem? hc)
      split
      · rename_i out hcl
        refine ⟨_, h.tick_fin (r' := s.repo) hc rfl hph.1 hph.2.1 (classify_spec hph.2.2 now hcl) ?_⟩
        intro id p hop
        subst hop
        exact absurd hph.2.2 (by simp [missOk])
      · exact ⟨σ, h.tick_quiet hc rfl rfl ⟨Nat.lt_succ_of_lt hph.1, hph.2.1⟩⟩
    · exact ⟨σ, h⟩
  | ret c =>
    simp only [Ent.step]
    split
    · rename_i k now op out lin hc
      exact ⟨σ, h.tick_ret hc⟩
    · exact ⟨σ, h⟩

theorem Inv.run {s : Sys} {σ : List E} (h : Inv s σ) : ∀ (acts : List Act), FreshAdds s acts →
    ∃ σ', Inv (Ent.run s acts) σ' := by
  intro acts
  induction acts generalizing s σ with
  | nil => exact fun _ => ⟨σ, h⟩
  | cons a rest ih =>
    intro hf
    obtain ⟨σ', h'⟩ := h.next a hf.1
    exact ih h' hf.2

theorem pending_map_toE (s : Sys) : s.pending.map toE = s.phases.filterMap Phase.toE? := by
  unfold Sys.pending
  rw [List.map_filterMap]
  congr 1
  funext ph
  cases ph <;> rfl

theorem mem_pending_ret {s : Sys} {x : LOp × Nat} (h : x ∈ s.pending) : x.1.ret = s.clock := by
  obtain ⟨ph, -, hph⟩ := List.mem_filterMap.mp h
  cases ph <;> cases hph
  rfl

/-- The returned calls together with the finished ones (completed with a return "now") have a
sequential witness: an order in which `Repo.step` returns the reported results and whose deciding
statements ran at strictly increasing stamps inside the calls' intervals. -/
theorem Inv.witness {s : Sys} {σ : List E} (h : Inv s σ) :
    ∃ σL : List LOp, σL.Perm (s.history ++ s.pending.map (·.1)) ∧ AtomicSections σL ∧
      replays sameExact {} σL = true ∧ (∀ o ∈ σL, lifecycle o.op = true) ∧
      Repo.run {} {} (σL.map fun o => (o.now, o.op)) = s.repo := by
  have hfull : (s.hist ++ s.pending).map toE = s.hist.map toE ++ s.phases.filterMap Phase.toE? := by
    rw [List.map_append, pending_map_toE]
  obtain ⟨σ2, hp2, hm2⟩ := perm_map_inv toE σ (s.hist ++ s.pending) (hfull ▸ h.perm)
  have hmem : ∀ a ∈ σ2, a.1.call ≤ a.2 ∧ a.2 ≤ a.1.ret ∧ lifecycle a.1.op = true := by
    intro a ha
    have hb := h.bound (toE a) (hm2 ▸ List.mem_map_of_mem ha)
    refine ⟨hb.1, ?_, hb.2.2⟩
    rcases List.mem_append.mp (hp2.mem_iff.mp ha) with ha' | ha'
    · exact h.ret a ha'
    · rw [mem_pending_ret ha']
      exact Nat.le_of_lt hb.2.1
  refine ⟨σ2.map (·.1), ?_, AtomicSectionsL.toFun (instants := σ2.map (·.2)) ⟨by simp, ?_, ?_⟩, ?_, ?_,
    ?_⟩
  · have := hp2.map (·.1)
    simpa [Sys.history] using this
  · rw [List.pairwise_map]
    have := h.sorted
    rw [← hm2, List.pairwise_map] at this
    exact this
  · intro x hx
    rw [List.zip_map', List.mem_map] at hx
    obtain ⟨a, ha, rfl⟩ := hx
    exact ⟨(hmem a ha).1, (hmem a ha).2.1⟩
  · exact replays_of_okE σ2 {} (hm2 ▸ h.ok)
  · intro o ho
    obtain ⟨a, ha, rfl⟩ := List.mem_map.mp ho
    exact (hmem a ha).2.2
  · rw [← h.final, ← hm2]
    exact (runE_map_toE σ2 {}).symm

theorem pending_nil_of_quiescent {s : Sys} (h : s.Quiescent) : s.pending = [] := by
  unfold Sys.pending
  rw [List.filterMap_eq_nil_iff]
  intro ph hph
  have := List.all_eq_true.mp h ph hph
  cases ph <;> simp_all [Phase.isIdle]

end Gk.Ent
