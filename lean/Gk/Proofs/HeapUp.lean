/-
`heap.up`: frame lemmas and heap-order restoration.
-/
import Gk.Proofs.HeapBasic

set_option linter.unusedSectionVars false

namespace Gk
namespace H
variable {α : Type} [DecidableEq α]

/-- All parent/child pairs below `n` that do not involve position `i` are in order, and the children
of `i` are not smaller than the parent of `i`. -/
def HeapExceptP (lt : α → α → Bool) (arr : Array α) (i n : Nat) : Prop :=
  (∀ j (hj : j < arr.size), 0 < j → j < n → j ≠ i → (j-1)/2 ≠ i →
      lt arr[j] (arr[(j-1)/2]'(by omega)) = false) ∧
  (∀ j (hj : j < arr.size) (_ : 0 < j), j < n → ∀ (_ : (j-1)/2 = i), 0 < i →
      lt arr[j] (arr[(i-1)/2]'(by omega)) = false)

def ChildrenOk (lt : α → α → Bool) (arr : Array α) (i n : Nat) : Prop :=
  ∀ j (hj : j < arr.size) (_ : 0 < j), j < n → ∀ (_ : (j-1)/2 = i), lt arr[j] (arr[i]'(by omega)) = false

def ParentOk (lt : α → α → Bool) (arr : Array α) (i n : Nat) : Prop :=
  ∀ (hi : i < arr.size), 0 < i → i < n → lt arr[i] (arr[(i-1)/2]'(by omega)) = false

theorem heapP_of_except {lt : α → α → Bool} {arr : Array α} {i n : Nat}
    (he : HeapExceptP lt arr i n) (hc : ChildrenOk lt arr i n) (hp : ParentOk lt arr i n) :
    HeapP lt arr n := by
  intro j hj h0 hjn
  by_cases hji : j = i
  · subst hji; exact hp hj h0 hjn
  · by_cases hpi : (j-1)/2 = i
    · subst hpi; exact hc j hj h0 hjn rfl
    · exact he.1 j hj h0 hjn hji hpi

theorem HeapP.except {lt : α → α → Bool} {arr : Array α} {n : Nat} (o : LtOrder lt)
    (h : HeapP lt arr n) (i : Nat) :
    HeapExceptP lt arr i n ∧ ChildrenOk lt arr i n ∧ ParentOk lt arr i n := by
  refine ⟨⟨fun j hj h0 hjn _ _ => h j hj h0 hjn, ?_⟩, ?_, fun hi h0 hin => h i hi h0 hin⟩
  · intro j hj h0 hjn hpi h0i
    subst hpi
    exact o.ntrans _ _ _ (h j hj h0 hjn)
      (h ((j-1)/2) (Nat.lt_trans (parent_lt h0) hj) h0i (Nat.lt_trans (parent_lt h0) hjn))
  · intro j hj h0 hjn hpi
    subst hpi
    exact h j hj h0 hjn

/-- One step of `up`: the hole moves from `k` to its parent. -/
theorem up_step {lt : α → α → Bool} (o : LtOrder lt) {arr : Array α} {k n : Nat}
    (hk : k < arr.size) (h0 : 0 < k)
    (he : HeapExceptP lt arr k n) (hc : ChildrenOk lt arr k n)
    (hlt : lt arr[k] (arr[(k-1)/2]'(Nat.lt_trans (parent_lt h0) hk)) = true) :
    HeapExceptP lt (arr.swap ((k-1)/2) k (Nat.lt_trans (parent_lt h0) hk) hk) ((k-1)/2) n ∧
      ChildrenOk lt (arr.swap ((k-1)/2) k (Nat.lt_trans (parent_lt h0) hk) hk) ((k-1)/2) n := by
  have hpk : (k-1)/2 ≠ k := Nat.ne_of_lt (parent_lt h0)
  refine ⟨⟨?_, ?_⟩, ?_⟩
  · intro j hj h0j hjn hjp hpp
    have hj' : j < arr.size := by simpa using hj
    have hjk : j ≠ k := by rintro rfl; exact hpp rfl
    simp only [Array.getElem_swap, hjp, hjk, hpp, if_false]
    by_cases hpk : (j-1)/2 = k
    · simp only [hpk, if_true]
      exact he.2 j hj' h0j hjn hpk h0
    · simp only [hpk, if_false]
      exact he.1 j hj' h0j hjn hjk hpk
  · intro j hj h0j hjn hpp h0p
    have hj' : j < arr.size := by simpa using hj
    have hjp : j ≠ (k-1)/2 := Nat.ne_of_gt (hpp ▸ parent_lt h0j)
    have e1 : ((k-1)/2 - 1)/2 ≠ (k-1)/2 := Nat.ne_of_lt (parent_lt h0p)
    have e2 : ((k-1)/2 - 1)/2 ≠ k := Nat.ne_of_lt (Nat.lt_trans (parent_lt h0p) (parent_lt h0))
    have hpok := he.1 ((k-1)/2) (Nat.lt_trans (parent_lt h0) hk) h0p
      (Nat.lt_trans (hpp ▸ parent_lt h0j) hjn) hpk e2
    simp only [Array.getElem_swap, hjp, e1, e2, if_false]
    by_cases hjk : j = k
    · simp only [hjk, if_true]
      exact hpok
    · simp only [hjk, if_false]
      have := he.1 j hj' h0j hjn hjk (hpp ▸ hpk)
      simp only [hpp] at this
      exact o.ntrans _ _ _ this hpok
  · intro j hj h0j hjn hpp
    have hj' : j < arr.size := by simpa using hj
    have hjp : j ≠ (k-1)/2 := Nat.ne_of_gt (hpp ▸ parent_lt h0j)
    simp only [Array.getElem_swap, hjp, if_false, if_true]
    by_cases hjk : j = k
    · simp only [hjk, if_true]
      exact o.asymm hlt
    · simp only [hjk, if_false]
      have := he.1 j hj' h0j hjn hjk (hpp ▸ hpk)
      simp only [hpp] at this
      exact o.not_lt_of_lt_of_not_lt hlt this

theorem up_frame (lt : α → α → Bool) (h : H α) (j : Nat) : Frame h (up lt h j) := by
  fun_induction up lt h j with
  | case1 h j hj i hij => exact Frame.refl _
  | case2 h j hj i hij hi hlt ih => exact (swap_frame h i j hi hj).trans ih
  | case3 h j hj i hij hi hlt => exact Frame.refl _
  | case4 h j hj => exact Frame.refl _

@[simp] theorem up_size (lt : α → α → Bool) (h : H α) (j : Nat) :
    (up lt h j).arr.size = h.arr.size := (up_frame lt h j).size_eq

theorem up_get_gt (lt : α → α → Bool) (h : H α) (j : Nat) (k : Nat) (hjk : j < k)
    (hk : k < h.arr.size) (hk' : k < (up lt h j).arr.size) : (up lt h j).arr[k] = h.arr[k] := by
  fun_induction up lt h j with
  | case1 h j hj i hij => rfl
  | case2 h j hj i hij hi hlt ih =>
    have hik : i < k := Nat.lt_trans (parent_lt (pos_of_parent_ne hij)) hjk
    rw [ih hik (by simpa using hk)]
    exact Array.getElem_swap_of_ne (Nat.ne_of_gt hik) (Nat.ne_of_gt hjk)
  | case3 h j hj i hij hi hlt => rfl
  | case4 h j hj => rfl

theorem up_zero (lt : α → α → Bool) (h : H α) : up lt h 0 = h := by
  unfold up
  simp

theorem up_heap {lt : α → α → Bool} (o : LtOrder lt) (h : H α) (k n : Nat)
    (hkn : k < n) (hn : n ≤ h.arr.size)
    (he : HeapExceptP lt h.arr k n) (hc : ChildrenOk lt h.arr k n) :
    HeapP lt (up lt h k).arr n := by
  fun_induction up lt h k with
  | case1 h j hj i hij =>
    exact heapP_of_except he hc fun _ h0 _ => absurd hij (Nat.ne_of_lt (parent_lt h0))
  | case2 h j hj i hij hi hlt ih =>
    have h0 := pos_of_parent_ne hij
    have := up_step o hj h0 he hc hlt
    exact ih (Nat.lt_trans (parent_lt h0) hkn) (by simpa using hn) this.1 this.2
  | case3 h j hj i hij hi hlt =>
    exact heapP_of_except he hc fun _ _ _ => by simpa using hlt
  | case4 h j hj => exact absurd (Nat.lt_of_lt_of_le hkn hn) hj

end H
end Gk
