/-
`byCreated` (Gk/Query.lean): the stable sort by creation time that `Find` lists its matches in.
-/
import Gk.Query
namespace Gk

theorem insCreated_perm (t : Task) (l : List Task) : (insCreated t l).Perm (t :: l) := by
  induction l with
  | nil => exact List.Perm.refl _
  | cons x xs ih =>
    unfold insCreated
    split
    · exact List.Perm.refl _
    · exact (List.Perm.cons x ih).trans (List.Perm.swap t x xs)

theorem byCreated_perm (l : List Task) : (byCreated l).Perm l := by
  induction l with
  | nil => exact List.Perm.refl _
  | cons t ts ih => exact (insCreated_perm t _).trans (List.Perm.cons t ih)

theorem mem_byCreated {t : Task} {l : List Task} : t ∈ byCreated l ↔ t ∈ l :=
  (byCreated_perm l).mem_iff

theorem byCreated_length (l : List Task) : (byCreated l).length = l.length :=
  (byCreated_perm l).length_eq

def CreatedSorted (l : List Task) : Prop := l.Pairwise (fun a b => a.createdAt ≤ b.createdAt)

theorem insCreated_sorted (t : Task) (l : List Task) (h : CreatedSorted l) : CreatedSorted (insCreated t l) := by
  induction l with
  | nil => exact List.pairwise_singleton _ _
  | cons x xs ih =>
    unfold insCreated
    have hx := List.pairwise_cons.mp h
    split
    · rename_i hle
      refine List.pairwise_cons.mpr ⟨?_, h⟩
      intro y hy
      rcases List.mem_cons.mp hy with rfl | hy
      · exact hle
      · exact Int.le_trans hle (hx.1 y hy)
    · rename_i hnle
      refine List.pairwise_cons.mpr ⟨?_, ih hx.2⟩
      intro y hy
      rcases List.mem_cons.mp ((insCreated_perm t xs).mem_iff.mp hy) with rfl | hy
      · exact Int.le_of_lt (Int.not_le.mp hnle)
      · exact hx.1 y hy

theorem byCreated_sorted (l : List Task) : CreatedSorted (byCreated l) := by
  induction l with
  | nil => exact List.Pairwise.nil
  | cons t ts ih => exact insCreated_sorted t _ ih

theorem insCreated_front (t : Task) (xs : List Task) (h : ∀ x ∈ xs, t.createdAt ≤ x.createdAt) :
    insCreated t xs = t :: xs := by
  cases xs with
  | nil => rfl
  | cons x xs => simp [insCreated, h x (by simp)]

/-- Under a clock that never steps back (creation times non-decreasing in insertion order) the listing
order is the insertion order. -/
theorem byCreated_of_sorted (l : List Task) (h : CreatedSorted l) : byCreated l = l := by
  induction l with
  | nil => rfl
  | cons t ts ih =>
    have ht := List.pairwise_cons.mp h
    show insCreated t (byCreated ts) = t :: ts
    rw [ih ht.2, insCreated_front t ts ht.1]

theorem insCreated_filter (p : Task → Bool) (t : Task) (xs : List Task) (hs : CreatedSorted xs) :
    (insCreated t xs).filter p = if p t then insCreated t (xs.filter p) else xs.filter p := by
  induction xs with
  | nil => by_cases hp : p t = true <;> simp [insCreated, hp]
  | cons x xs ih =>
    have hs' : CreatedSorted xs := (List.pairwise_cons.1 hs).2
    have hx_le : ∀ y ∈ xs, x.createdAt ≤ y.createdAt := (List.pairwise_cons.1 hs).1
    simp only [insCreated]
    by_cases h : t.createdAt ≤ x.createdAt
    · by_cases hp : p t = true <;> by_cases hx : p x = true <;> simp [h, hp, hx, insCreated]
      -- p t, ¬ p x: t goes in front of the filtered tail, all of whose elements are not earlier than x
      rw [insCreated_front]
      intro y hy
      exact Int.le_trans h (hx_le y (List.mem_filter.1 hy).1)
    · by_cases hp : p t = true <;> by_cases hx : p x = true <;> simp [h, hp, hx, insCreated, ih hs']

theorem byCreated_filter (p : Task → Bool) (xs : List Task) :
    byCreated (xs.filter p) = (byCreated xs).filter p := by
  induction xs with
  | nil => rfl
  | cons x xs ih =>
    by_cases hp : p x = true <;> simp [hp, byCreated, ih, insCreated_filter _ _ _ (byCreated_sorted xs)]

/-- Stability: tasks with the same creation time keep their insertion order — the sublist of any one
creation time is unchanged. -/
theorem byCreated_stable (l : List Task) (c : Time) :
    (byCreated l).filter (fun x => x.createdAt == c) = l.filter (fun x => x.createdAt == c) := by
  rw [← byCreated_filter, byCreated_of_sorted]
  refine List.pairwise_of_forall_mem_list fun a ha b hb => ?_
  rw [eq_of_beq (List.mem_filter.1 ha).2, eq_of_beq (List.mem_filter.1 hb).2]
  exact Int.le_refl c

end Gk
