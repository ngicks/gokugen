/-
The cron store under arbitrary sequences of its operations (`COp`, `run`), for C15, C16, C17 and the cron clause of
C18. An accepted edit is characterised once (`stage_spec`, `Accepted`, `updateTask_spec`); `Core` / `Inv` say that the
pending bag and `c.entries` carry the same identities under distinct ranks, `ClockInv` that the timer is silent unless
the store is started and non-empty; the ghost log of the occurrences handed to `wrap` is, for each entry, the stretch
of its schedule its cursor has moved over (`run_stream`).
-/
import Gk.Cron
import Gk.Proofs.KeyOrder
import Gk.Proofs.Clock
import Gk.Proofs.Mut
namespace Gk
namespace Cron

inductive COp
  | pop | peek
  | edit (added removed : List String)
  | start | stop
  | advance (t : Time)
  | consume
  deriving Repr

def step (c : Cron) : COp → Cron
  | .pop => c.pop.1
  | .peek => c
  | .edit a r => (c.editTask a r).1
  | .start => c.startTimer
  | .stop => c.stopTimer
  | .advance t => { c with clock := c.clock.advance t }
  | .consume => { c with clock := c.clock.consume.1 }

def run (c : Cron) (ops : List COp) : Cron := ops.foldl step c

@[simp] theorem run_nil (c : Cron) : c.run [] = c := rfl
@[simp] theorem run_cons (c : Cron) (op : COp) (ops : List COp) :
    c.run (op :: ops) = (c.step op).run ops := rfl
theorem run_append (c : Cron) (ops ops' : List COp) :
    c.run (ops ++ ops') = (c.run ops).run ops' := by
  simp [run, List.foldl_append]

/-- the identities an edit removes (as computed at the top of `updateTask`) -/
def removedKeys (c : Cron) (removed : List String) : List SerKey :=
  removed.filterMap (fun n => (c.ent n).bind (·.param) |>.map serKey)

/-- the identity of an entry: `paramToSerializable(Entry.Param())`, which ignores `scheduled_at` -/
def _root_.Gk.CEntry.ident (e : CEntry) : SerKey :=
  serKey { e.base with meta_ := some (SMap.insert (e.base.meta_.getD []) metaKeyScheduleHash e.hash) }

theorem _root_.Gk.CEntry.param_eq {e : CEntry} {p : Param} (h : e.param = some p) :
    ∃ o, e.nextOcc = some o ∧
      p = { e.base with scheduledAt := some o,
                        meta_ := some (SMap.insert (e.base.meta_.getD []) metaKeyScheduleHash e.hash) } :=
  let ⟨o, ho, hp⟩ := Option.map_eq_some_iff.mp h
  ⟨o, ho, hp.symm⟩

theorem _root_.Gk.CEntry.serKey_param {e : CEntry} {p : Param} (h : e.param = some p) :
    serKey p = e.ident := by
  obtain ⟨o, _, rfl⟩ := CEntry.param_eq h
  rfl

theorem _root_.Gk.CEntry.param_sched {e : CEntry} {p : Param} (h : e.param = some p) :
    p.scheduledAt = e.nextOcc := by
  obtain ⟨o, ho, rfl⟩ := CEntry.param_eq h
  simp [ho]

theorem _root_.Gk.CEntry.param_eq_none {e : CEntry} : e.param = none ↔ e.nextOcc = none := by
  simp [CEntry.param]

theorem _root_.Gk.CEntry.nextOcc_gt {e : CEntry} {o : Time} (h : e.nextOcc = some o) :
    e.prev < o ∧ o ∈ e.occ :=
  ⟨by simpa using List.find?_some h, List.mem_of_find?_eq_some h⟩

@[simp] theorem _root_.Gk.CEntry.advance_name (e : CEntry) : e.advance.name = e.name := by
  unfold CEntry.advance; split <;> rfl
@[simp] theorem _root_.Gk.CEntry.advance_occ (e : CEntry) : e.advance.occ = e.occ := by
  unfold CEntry.advance; split <;> rfl
@[simp] theorem _root_.Gk.CEntry.advance_ident (e : CEntry) : e.advance.ident = e.ident := by
  unfold CEntry.advance; split <;> rfl
theorem _root_.Gk.CEntry.advance_prev {e : CEntry} {o : Time} (h : e.nextOcc = some o) :
    e.advance = { e with prev := o } := by
  unfold CEntry.advance; rw [h]
theorem _root_.Gk.CEntry.advance_of_none {e : CEntry} (h : e.nextOcc = none) : e.advance = e := by
  unfold CEntry.advance; rw [h]

def minStep (acc : Option WTask) (w : WTask) : Option WTask :=
  match acc with
  | none => some w
  | some m => if (wkey w).less (wkey m) then some w else some m

theorem head_eq (c : Cron) : c.head = c.pending.foldl minStep none := rfl

theorem foldl_minStep_some (ws : List WTask) (m : WTask) :
    ∃ h, ws.foldl minStep (some m) = some h ∧ (h = m ∨ h ∈ ws) ∧ (wkey m).less (wkey h) = false ∧
      ∀ w ∈ ws, (wkey w).less (wkey h) = false := by
  induction ws generalizing m with
  | nil => exact ⟨m, rfl, .inl rfl, Key.less_irrefl _, fun _ h => nomatch h⟩
  | cons w rest ih =>
    rw [List.foldl_cons, minStep]
    split
    next hlt =>
      obtain ⟨h, e, hm, h1, h2⟩ := ih w
      exact ⟨h, e, .inr (hm.elim (· ▸ List.mem_cons_self) (List.mem_cons_of_mem _)),
        Key.less_ntrans (Key.less_asymm hlt) h1, List.forall_mem_cons.mpr ⟨h1, h2⟩⟩
    next hlt =>
      obtain ⟨h, e, hm, h1, h2⟩ := ih m
      exact ⟨h, e, hm.imp_right (List.mem_cons_of_mem _), h1,
        List.forall_mem_cons.mpr ⟨Key.less_ntrans (Bool.eq_false_iff.mpr hlt) h1, h2⟩⟩

theorem head_spec (c : Cron) :
    match c.head with
    | none => c.pending = []
    | some h => h ∈ c.pending ∧ ∀ x ∈ c.pending, (wkey x).less (wkey h) = false := by
  rw [head_eq]
  cases c.pending with
  | nil => rfl
  | cons w ws =>
    obtain ⟨h, e, hm, h1, h2⟩ := foldl_minStep_some ws w
    rw [List.foldl_cons, show minStep none w = some w from rfl, e]
    exact ⟨hm.elim (· ▸ List.mem_cons_self) (List.mem_cons_of_mem _), List.forall_mem_cons.mpr ⟨h1, h2⟩⟩

theorem head_none_iff (c : Cron) : c.head = none ↔ c.pending = [] :=
  ⟨fun h => by have := head_spec c; rwa [h] at this, fun h => by simp [head_eq, h]⟩

theorem head_mem {c : Cron} {h : WTask} (hh : c.head = some h) : h ∈ c.pending := by
  have := head_spec c
  rw [hh] at this
  exact this.1

theorem head_min {c : Cron} {h : WTask} (hh : c.head = some h) :
    ∀ w ∈ c.pending, (wkey w).less (wkey h) = false := by
  have := head_spec c
  rw [hh] at this
  exact this.2

theorem head_congr {c c' : Cron} (h : c'.pending = c.pending) : c'.head = c.head := by
  simp [head_eq, h]

/-- the timer is armed for the head, or the fire is waiting, or there is nothing to wait for -/
def TimerFollowsHead (c : Cron) : Prop :=
  (∀ h, c.head = some h →
    (c.clock.armed = some h.task.scheduledAt ∧ c.clock.now < h.task.scheduledAt) ∨
    (c.clock.pending = true ∧ h.task.scheduledAt ≤ c.clock.now)) ∧
  (c.head = none → c.clock.armed = none ∧ c.clock.pending = false)

theorem ent_some {c : Cron} {n : String} {e : CEntry} (h : c.ent n = some e) :
    e.name = n ∧ e ∈ c.ents := by
  unfold ent at h
  exact ⟨by simpa using List.find?_some h, List.mem_of_find?_eq_some h⟩

/-- what is found under the name `n` has the name `n`: an edit that skips `n` leaves the lookup alone -/
theorem ent_map_skip (c : Cron) {n : String} {P : String → Bool} (f : CEntry → CEntry) (hn : P n = false) :
    (c.ent n).map (fun x => if P x.name then f x else x) = c.ent n := by
  cases hx : c.ent n with
  | none => rfl
  | some x => simp [(ent_some hx).1, hn]

theorem ent_eq_of_name {c : Cron} {n : String} {x e : CEntry} (hx : c.ent n = some x)
    (he : c.ent e.name = some e) (hn : x.name = e.name) : x = e := by
  rw [← (ent_some hx).1, hn, he] at hx
  exact (Option.some.inj hx).symm

theorem setEnt_name (e x : CEntry) : (if x.name == e.name then e else x).name = x.name := by
  split
  next h => exact (eq_of_beq h).symm
  · rfl

theorem setEnt_ent (c : Cron) (e' : CEntry) (n : String) :
    (c.setEnt e').ent n = (c.ent n).map (fun x => if x.name == e'.name then e' else x) := by
  simp only [ent, setEnt, List.find?_map, Function.comp_def, setEnt_name]

/-- `Entry.Next()` on the object the store `c` holds under that name, in a store `cur` whose lookups are `c`'s
after `f` (`cur = c`, `f = id`: the store itself) -/
theorem setEnt_advance_ent {c cur : Cron} {f : CEntry → CEntry} (hf : ∀ x, (f x).name = x.name)
    (hcur : ∀ n, cur.ent n = (c.ent n).map f) {e : CEntry} (he : c.ent e.name = some e) (n : String) :
    (cur.setEnt e.advance).ent n = (c.ent n).map (fun x => if x.name == e.name then x.advance else f x) := by
  rw [setEnt_ent, hcur]
  cases hx : c.ent n with
  | none => rfl
  | some x =>
    simp only [Option.map_some, CEntry.advance_name, hf]
    by_cases hn : (x.name == e.name) = true
    · rw [if_pos hn, if_pos hn, ent_eq_of_name hx he (eq_of_beq hn)]
    · simp [hn]

theorem setEnt_names (c : Cron) (e : CEntry) :
    (c.setEnt e).ents.map (·.name) = c.ents.map (·.name) := by
  simp only [setEnt, List.map_map, Function.comp_def, setEnt_name]

@[simp] theorem setEnt_fixed (c : Cron) (e : CEntry) : (c.setEnt e).fixed = c.fixed := rfl
@[simp] theorem setEnt_entries (c : Cron) (e : CEntry) : (c.setEnt e).entries = c.entries := rfl
@[simp] theorem setEnt_pending (c : Cron) (e : CEntry) : (c.setEnt e).pending = c.pending := rfl
@[simp] theorem setEnt_counter (c : Cron) (e : CEntry) : (c.setEnt e).counter = c.counter := rfl
@[simp] theorem setEnt_clock (c : Cron) (e : CEntry) : (c.setEnt e).clock = c.clock := rfl
@[simp] theorem setEnt_started (c : Cron) (e : CEntry) : (c.setEnt e).started = c.started := rfl
@[simp] theorem setEnt_oracle (c : Cron) (e : CEntry) :
    (c.setEnt e).oracleExhausted = c.oracleExhausted := rfl

def NamesUnique (l : List CEntry) : Prop := l.Pairwise (fun a b => a.name ≠ b.name)

theorem NamesUnique.eq_of_name {l : List CEntry} (h : NamesUnique l) {a b : CEntry}
    (ha : a ∈ l) (hb : b ∈ l) (hn : a.name = b.name) : a = b :=
  eq_of_map_eq_of_nodup (f := CEntry.name) (List.pairwise_map.mpr h) ha hb hn

theorem ent_of_mem {c : Cron} (hu : NamesUnique c.ents) {e : CEntry} (he : e ∈ c.ents) :
    c.ent e.name = some e := find?_key_of_nodup (f := CEntry.name) (List.pairwise_map.mpr hu) he

theorem namesUnique_of_names {l l' : List CEntry} (h : l'.map (·.name) = l.map (·.name))
    (hu : NamesUnique l) : NamesUnique l' :=
  List.pairwise_map.mp (h ▸ List.pairwise_map.mpr hu)

/-! ## Mutators never panic once they succeeded -/

/-- with the model's empty random source the mutator chain succeeds whatever the parameters -/
def MutsSafe (muts : List Mut.Mutator) : Prop :=
  ∀ now p, ∃ p', Mut.apply true now muts p [] = .ok p' []

/-- on the empty random source a successful `Mutate` leaves nothing unread and succeeds on every parameter:
whether it panics does not depend on the parameter -/
theorem mutateRandomize_nil {mn mx : Int} {p p1 : Param} {rest : List Nat}
    (h : Mut.mutateRandomize true mn mx p [] = .ok p1 rest) :
    rest = [] ∧ ∀ q, ∃ q1, Mut.mutateRandomize true mn mx q [] = .ok q1 [] := by
  obtain ⟨_, _, hsuf, _⟩ := Mut.mutate_fixed_ok h
  refine ⟨List.suffix_nil.mp hsuf, fun q => ?_⟩
  cases hq : Mut.mutateRandomize true mn mx q [] with
  | ok q1 r1 =>
    obtain ⟨_, _, hs, _⟩ := Mut.mutate_fixed_ok hq
    cases List.suffix_nil.mp hs
    exact ⟨q1, rfl⟩
  | panic =>
    rw [(Mut.mutate_fixed_panic_iff mn mx p []).mpr ((Mut.mutate_fixed_panic_iff mn mx q []).mp hq)] at h
    cases h

theorem mutsSafe_of_ok {muts : List Mut.Mutator} {now : Time} {p p' : Param} {r : List Nat}
    (h : Mut.apply true now muts p [] = .ok p' r) : MutsSafe muts := by
  induction muts generalizing p with
  | nil => intro now' q; exact ⟨q, rfl⟩
  | cons m ms ih =>
    cases m with
    | now =>
      simp only [Mut.apply] at h
      have := ih h
      intro now' q
      simp only [Mut.apply]
      exact this now' _
    | randomize mn mx =>
      simp only [Mut.apply] at h
      split at h
      · rename_i p1 rest hr
        obtain ⟨rfl, hall⟩ := mutateRandomize_nil hr
        have := ih h
        intro now' q
        obtain ⟨q1, hq1⟩ := hall q
        simp only [Mut.apply, hq1]
        exact this now' _
      · cases h

theorem wrap_some {c : Cron} {e : CEntry} {p : Param} {muts : List Mut.Mutator} {r : Nat} {w : WTask}
    (h : wrap c e p muts r = some w) :
    w.key = serKey p ∧ w.muts = muts ∧ w.rank = r ∧ MutsSafe muts ∧
      ∃ p', Mut.apply true c.clock.now muts p [] = .ok p' [] ∧ w.task = p'.toTask "" c.clock.now := by
  unfold wrap at h
  split at h
  · rename_i p' r' hp
    cases h
    have hs := mutsSafe_of_ok hp
    obtain ⟨p'', hp''⟩ := hs c.clock.now p
    rw [hp] at hp''
    cases hp''
    exact ⟨rfl, rfl, rfl, hs, _, hp, rfl⟩
  · cases h

theorem wrap_of_safe (c : Cron) (e : CEntry) (p : Param) {muts : List Mut.Mutator} (r : Nat)
    (h : MutsSafe muts) : ∃ w, wrap c e p muts r = some w := by
  obtain ⟨p', hp⟩ := h c.clock.now p
  exact ⟨_, by unfold wrap; rw [hp]⟩

theorem wrap_congr {c c' : Cron} (h : c'.clock = c.clock) (e e' : CEntry) (p : Param)
    (muts : List Mut.Mutator) (r : Nat) : wrap c' e' p muts r = wrap c e p muts r := by
  unfold wrap; rw [h]

theorem wrap_stopTimerRaw (c : Cron) (e : CEntry) (p : Param) (muts : List Mut.Mutator) (r : Nat) :
    wrap c.stopTimerRaw e p muts r = wrap c e p muts r := by
  unfold wrap stopTimerRaw
  simp only [Clock.stopAndDrain_now]

theorem wrap_state {c : Cron} {e : CEntry} {p : Param} {muts : List Mut.Mutator} {r : Nat} {w : WTask}
    (h : wrap c e p muts r = some w) : w.task.state = .scheduled := by
  obtain ⟨_, _, _, _, p', _, ht⟩ := wrap_some h
  rw [ht]
  rfl

theorem updateTask_eq (c : Cron) (a r : List String) :
    c.updateTask a r =
      match updateTask.stage (c.removedKeys r) c a [] c.counter with
      | (c1, none) => (c1, false)
      | (c1, some (staged, counter)) =>
        let c2 := if c1.fixed then staged.foldl (fun c s => c.setEnt s.ent.advance) c1 else c1
        ({ c2 with counter := counter,
                   entries := c2.entries.filter (fun kv => !(c.removedKeys r).contains kv.1) ++
                     staged.map (fun s => (s.w.key, s.ent.name)),
                   pending := c2.pending.filter (fun w => !(c.removedKeys r).contains w.key) ++
                     staged.map (·.w) }, true) := rfl

/-- what the staging loop established for one accepted entry -/
def StagedOK (c : Cron) (rk : List SerKey) (s : Staged) : Prop :=
  c.ent s.ent.name = some s.ent ∧
  ∃ p muts, s.ent.param = some p ∧
    (c.entries.any (fun kv => kv.1 == serKey p) = true → rk.contains (serKey p) = true) ∧
    Mut.load (p.meta_.getD []) s.ent.oMin s.ent.oMax = .ok muts ∧
    wrap c s.ent p muts s.w.rank = some s.w

/-- what the staging loop returns: on success the store is untouched and the entries offered are staged in
order, with the next ranks and pairwise distinct identities; on failure at most the harness-error flag is raised -/
def StageRes (rk : List SerKey) (c : Cron) (todo : List String) (st : List Staged) (k : Nat) :
    Cron × Option (List Staged × Nat) → Prop
  | (c', some (st', k')) =>
    c' = c ∧ k' = k + todo.length ∧ ∃ news, st' = st ++ news ∧ news.map (·.ent.name) = todo ∧
      news.map (·.w.rank) = List.range' (k + 1) todo.length ∧ (∀ s ∈ news, StagedOK c rk s) ∧
      ((st ++ news).map (·.w.key)).Nodup
  | (c', none) => c' = c ∨ c' = { c with oracleExhausted := true }

theorem stage_spec (rk : List SerKey) (c : Cron) (hf : c.fixed = true) (todo : List String) :
    ∀ (st : List Staged) (k : Nat), (st.map (·.w.key)).Nodup →
      StageRes rk c todo st k (updateTask.stage rk c todo st k) := by
  induction todo with
  | nil =>
    intro st k hst
    rw [updateTask.stage]
    exact ⟨rfl, rfl, [], by simp, rfl, rfl, by simp, by simpa using hst⟩
  | cons n rest ih =>
    intro st k hst
    rw [updateTask.stage]
    simp only [hf, if_true]
    cases he : c.ent n with
    | none => exact .inl rfl
    | some e =>
      dsimp only
      cases hp : e.param with
      | none => exact .inr (by rw [hf])
      | some p =>
        dsimp only
        split
        · exact .inl rfl
        next hdup =>
          cases hl : Mut.load (p.meta_.getD []) e.oMin e.oMax with
          | error x => exact .inl rfl
          | ok muts =>
            dsimp only
            cases hw : c.wrap e p muts (k + 1) with
            | none => exact .inl rfl
            | some w =>
              dsimp only
              have hdup' : st.any (fun x => x.w.key == serKey p) = false ∧
                  (c.entries.any (fun x => x.fst == serKey p) = true →
                    rk.contains (serKey p) = true) := by
                simp only [Bool.or_eq_true, Bool.and_eq_true, Bool.not_eq_true', not_or, not_and,
                  Bool.not_eq_false] at hdup
                exact ⟨by simpa using hdup.1, hdup.2⟩
              -- the pinned source's replacement filter does nothing here: no staged identity is the new one
              rw [List.filter_eq_self.mpr fun x hx => by simpa [bne] using List.any_eq_false.mp hdup'.1 x hx]
              obtain ⟨hwk, _, hwr, _⟩ := wrap_some hw
              have := ih (st ++ [{ ent := e, w := w }]) (k + 1) (by
                rw [List.map_append]
                refine nodup_concat hst fun ha => ?_
                obtain ⟨s0, hs0, e0⟩ := List.mem_map.mp ha
                simpa [hwk, e0] using List.any_eq_false.mp hdup'.1 s0 hs0)
              generalize updateTask.stage rk c rest (st ++ [{ ent := e, w := w }]) (k + 1) = r at this ⊢
              obtain ⟨c', _ | ⟨st', k'⟩⟩ := r
              · exact this
              obtain ⟨hc, hk, news, hst', hnames, hranks, hok, hnd⟩ := this
              have hen := (ent_some he).1
              refine ⟨hc, by simp [hk]; omega, { ent := e, w := w } :: news, by simp [hst'], by simp [hnames, hen],
                ?_, fun s hs => ?_, by simpa using hnd⟩
              · simp only [List.map_cons, List.length_cons, hwr, hranks]
                rw [List.range'_succ]
              · rcases List.mem_cons.mp hs with rfl | hs
                · exact ⟨by simp [hen, he], p, muts, hp, hdup'.2, hl, by simp [hwr, hw]⟩
                · exact hok s hs

abbrev commit (c : Cron) (staged : List Staged) : Cron :=
  staged.foldl (fun c s => c.setEnt s.ent.advance) c

theorem commit_frame (staged : List Staged) (c : Cron) :
    (commit c staged).fixed = c.fixed ∧ (commit c staged).entries = c.entries ∧
    (commit c staged).pending = c.pending ∧
    (commit c staged).clock = c.clock ∧ (commit c staged).started = c.started ∧
    (commit c staged).oracleExhausted = c.oracleExhausted ∧
    (commit c staged).ents.map (·.name) = c.ents.map (·.name) := by
  induction staged generalizing c with
  | nil => simp [commit]
  | cons s rest ih =>
    have := ih (c.setEnt s.ent.advance)
    simp only [commit, List.foldl_cons] at this ⊢
    simpa [setEnt_names] using this

/-- committing advances exactly the entries staged; `f` is what earlier commits did to the lookups -/
theorem commit_ent {c : Cron} (staged : List Staged) (hs : ∀ s ∈ staged, c.ent s.ent.name = some s.ent) :
    ∀ (cur : Cron) (f : CEntry → CEntry), (∀ x, (f x).name = x.name) → (∀ n, cur.ent n = (c.ent n).map f) →
    ∀ n, (commit cur staged).ent n =
      (c.ent n).map (fun x => if (staged.map (·.ent.name)).contains x.name then x.advance else f x) := by
  induction staged with
  | nil => intro cur f _ h n; simp [commit, h]
  | cons s rest ih =>
    intro cur f hf hcur n
    rw [commit, List.foldl_cons, ← commit, ih (fun s' h' => hs s' (by simp [h']))
      (cur.setEnt s.ent.advance) (fun x => if x.name == s.ent.name then x.advance else f x)
      (fun x => by split <;> simp [hf]) (setEnt_advance_ent hf hcur (hs s (by simp))) n]
    congr 1; funext x
    rw [List.map_cons, List.contains_cons]
    cases (rest.map (·.ent.name)).contains x.name <;> simp

/-- everything an accepted edit did (repaired code) -/
structure Accepted (c : Cron) (a r : List String) (c' : Cron) (staged : List Staged) : Prop where
  names : staged.map (·.ent.name) = a
  ranks : staged.map (·.w.rank) = List.range' (c.counter + 1) a.length
  ok : ∀ s ∈ staged, StagedOK c (c.removedKeys r) s
  keys : (staged.map (·.w.key)).Nodup
  fixed : c'.fixed = true
  clock : c'.clock = c.clock
  started : c'.started = c.started
  oracle : c'.oracleExhausted = c.oracleExhausted
  counter : c'.counter = c.counter + a.length
  entries : c'.entries = c.entries.filter (fun kv => !(c.removedKeys r).contains kv.1) ++
    staged.map (fun s => (s.w.key, s.ent.name))
  pending : c'.pending = c.pending.filter (fun w => !(c.removedKeys r).contains w.key) ++
    staged.map (·.w)
  entNames : c'.ents.map (·.name) = c.ents.map (·.name)
  ent : ∀ n, c'.ent n = (c.ent n).map (fun x => if a.contains x.name then x.advance else x)
  stage : updateTask.stage (c.removedKeys r) c a [] c.counter =
    (c, some (staged, c.counter + a.length))

theorem updateTask_spec {c : Cron} (hf : c.fixed = true) (a r : List String) :
    ((c.updateTask a r).2 = false ∧
      ((c.updateTask a r).1 = c ∨ (c.updateTask a r).1 = { c with oracleExhausted := true })) ∨
    ((c.updateTask a r).2 = true ∧ ∃ staged, Accepted c a r (c.updateTask a r).1 staged) := by
  rw [updateTask_eq]
  have hs := stage_spec (c.removedKeys r) c hf a [] c.counter List.nodup_nil
  cases hst : updateTask.stage (c.removedKeys r) c a [] c.counter with
  | mk c1 o =>
    rw [hst] at hs
    rcases o with _ | ⟨staged, k⟩
    · exact .inl ⟨rfl, hs⟩
    · obtain ⟨rfl, rfl, news, hnews, hnames, hranks, hok, hnd⟩ := hs
      cases (List.nil_append news).symm.trans hnews.symm
      obtain ⟨f1, f2, f3, f5, f6, f7, f8⟩ := commit_frame staged c1
      have hent := commit_ent staged (fun s hs => (hok s hs).1) c1 id (fun _ => rfl) (fun n => by simp)
      refine .inr ⟨rfl, staged, ?_⟩
      simp only [hf, if_true]
      exact ⟨hnames, hranks, hok, hnd, f1.trans hf, f5, f6, f7, rfl, by simp only [f2], by simp only [f3], f8,
        fun n => hnames ▸ hent n, hst⟩

theorem updateTask_accept {c : Cron} (hf : c.fixed = true) {a r : List String}
    (h : (c.updateTask a r).2 = true) : ∃ staged, Accepted c a r (c.updateTask a r).1 staged :=
  (updateTask_spec hf a r).elim (fun h' => nomatch h'.1.symm.trans h) (·.2)

theorem updateTask_reject {c : Cron} (hf : c.fixed = true) {a r : List String}
    (h : (c.updateTask a r).2 = false) :
    (c.updateTask a r).1 = c ∨ (c.updateTask a r).1 = { c with oracleExhausted := true } :=
  (updateTask_spec hf a r).elim (·.2) (fun h' => nomatch h'.1.symm.trans h)

theorem resetTimer_eq (c : Cron) : c.resetTimer = { c with clock := c.resetTimer.clock } := by
  unfold resetTimer
  split
  · rfl
  · dsimp only; split <;> rfl

@[simp] theorem resetTimer_fixed (c : Cron) : c.resetTimer.fixed = c.fixed := by rw [resetTimer_eq]
@[simp] theorem resetTimer_ents (c : Cron) : c.resetTimer.ents = c.ents := by rw [resetTimer_eq]
@[simp] theorem resetTimer_entries (c : Cron) : c.resetTimer.entries = c.entries := by rw [resetTimer_eq]
@[simp] theorem resetTimer_pending (c : Cron) : c.resetTimer.pending = c.pending := by rw [resetTimer_eq]
@[simp] theorem resetTimer_counter (c : Cron) : c.resetTimer.counter = c.counter := by rw [resetTimer_eq]
@[simp] theorem resetTimer_started (c : Cron) : c.resetTimer.started = c.started := by rw [resetTimer_eq]
@[simp] theorem resetTimer_oracle (c : Cron) : c.resetTimer.oracleExhausted = c.oracleExhausted := by
  rw [resetTimer_eq]
theorem ent_congr {c c' : Cron} (h : c'.ents = c.ents) (n : String) : c'.ent n = c.ent n := by
  unfold ent; rw [h]

@[simp] theorem resetTimer_ent (c : Cron) (n : String) : c.resetTimer.ent n = c.ent n :=
  ent_congr (resetTimer_ents c) n
@[simp] theorem resetTimer_head (c : Cron) : c.resetTimer.head = c.head := head_congr (by simp)

theorem resetTimer_now (c : Cron) : c.resetTimer.clock.now = c.clock.now := by
  unfold resetTimer
  split
  · rfl
  · dsimp only
    split <;> simp [Clock.reset_now, Clock.stopAndDrain_now]

theorem stopTimer_now (c : Cron) : c.stopTimer.clock.now = c.clock.now := Clock.stopAndDrain_now _

theorem startTimer_now (c : Cron) : c.startTimer.clock.now = c.clock.now := by
  unfold startTimer
  rw [resetTimer_now]

/-- identity lookup of `pushNext` -/
def lookup (c : Cron) (t : WTask) : Option CEntry :=
  (c.entries.find? (·.1 == t.key)).bind (fun kv => c.ent kv.2)

/-- the entry a `Pop` will advance: the one stored under the head's identity -/
def popEnt (c : Cron) : Option CEntry := c.head.bind c.lookup

/-- `Pop` after the head was chosen, before the timer is re-armed -/
def popNext (c : Cron) (t : WTask) : Cron :=
  let rest := c.pending.filter (fun w => w.rank != t.rank)
  match c.lookup t with
  | none => { c with pending := rest }
  | some e =>
    match e.param with
    | none => { c with pending := rest, oracleExhausted := true }
    | some p =>
      match wrap c e p t.muts (c.counter + 1) with
      | some w => { c.setEnt e.advance with pending := rest ++ [w], counter := c.counter + 1 }
      | none => { c.setEnt e.advance with pending := rest }

theorem pop_none {c : Cron} (h : c.head = none) : c.pop = (c, none) := by
  unfold pop; rw [h]

theorem pop_some {c : Cron} {t : WTask} (h : c.head = some t) :
    c.pop = ((c.popNext t).resetTimer, some t.task) := by
  unfold pop; rw [h]; rfl

theorem step_pop (c : Cron) :
    (c.head = none ∧ c.pop.1 = c) ∨ ∃ t, c.head = some t ∧ c.pop.1 = (c.popNext t).resetTimer := by
  cases hh : c.head with
  | none => exact .inl ⟨rfl, by rw [pop_none hh]⟩
  | some t => exact .inr ⟨t, rfl, by rw [pop_some hh]⟩

theorem lookup_some {c : Cron} {t : WTask} {e : CEntry} (h : c.lookup t = some e) :
    c.ent e.name = some e := by
  obtain ⟨kv, _, h⟩ := Option.bind_eq_some_iff.mp h
  rw [(ent_some h).1]; exact h

theorem popNext_frame (c : Cron) (t : WTask) :
    (c.popNext t).fixed = c.fixed ∧ (c.popNext t).entries = c.entries ∧
    (c.popNext t).clock = c.clock ∧ (c.popNext t).started = c.started ∧
    (c.popNext t).ents.map (·.name) = c.ents.map (·.name) ∧
    (c.oracleExhausted = true → (c.popNext t).oracleExhausted = true) := by
  unfold popNext
  dsimp only
  split
  · simp
  · split
    · simp
    · split <;> simp [setEnt_names]

theorem popNext_ent (c : Cron) (t : WTask) (n : String) :
    (c.popNext t).ent n =
      (c.ent n).map (fun x => if (c.lookup t).any (fun e => x.name == e.name) then x.advance else x) := by
  unfold popNext
  dsimp only
  cases hl : c.lookup t with
  | none =>
    change c.ent n = _
    simp
  | some e =>
    have he := lookup_some hl
    dsimp only
    cases hp : e.param with
    | none =>
      dsimp only
      change c.ent n = _
      cases hx : c.ent n with
      | none => rfl
      | some x =>
        simp only [Option.map_some, Option.any_some]
        by_cases hn : (x.name == e.name) = true
        · cases ent_eq_of_name hx he (eq_of_beq hn)
          simp [CEntry.advance_of_none (CEntry.param_eq_none.mp hp)]
        · simp [hn]
    | some p =>
      dsimp only
      have : ∀ c' : Cron, c'.ents = (c.setEnt e.advance).ents →
          c'.ent n = (c.ent n).map (fun x => if x.name == e.name then x.advance else x) := by
        intro c' h
        rw [ent_congr h]
        exact setEnt_advance_ent (f := id) (fun _ => rfl) (fun _ => Option.map_id_apply.symm) he n
      split
      · simp only [Option.any_some]; exact this _ rfl
      · simp only [Option.any_some]; exact this _ rfl

theorem popNext_shape (c : Cron) (t : WTask) :
    ∃ fresh, (c.popNext t).pending = c.pending.filter (fun w => w.rank != t.rank) ++ fresh ∧
      fresh.map (·.rank) = List.range' (c.counter + 1) fresh.length ∧
      (c.popNext t).counter = c.counter + fresh.length ∧
      ∀ w ∈ fresh, w.task.state = .scheduled ∧ MutsSafe w.muts := by
  unfold popNext
  dsimp only
  split
  · exact ⟨[], (List.append_nil _).symm, rfl, rfl, fun _ h => nomatch h⟩
  · split
    · exact ⟨[], (List.append_nil _).symm, rfl, rfl, fun _ h => nomatch h⟩
    · split
      next w hw =>
        refine ⟨[w], rfl, ?_, rfl, fun w' hw' => ?_⟩
        · simp [(wrap_some hw).2.2.1]
        · cases List.mem_singleton.mp hw'; exact ⟨wrap_state hw, (wrap_some hw).2.1 ▸ (wrap_some hw).2.2.2.1⟩
      · exact ⟨[], (List.append_nil _).symm, rfl, rfl, fun _ h => nomatch h⟩

structure Core (c : Cron) : Prop where
  fixed : c.fixed = true
  perm : (c.pending.map (·.key)).Perm (c.entries.map (·.1))
  nodup : (c.entries.map (·.1)).Nodup
  ents : ∀ kv ∈ c.entries, ∃ e, c.ent kv.2 = some e ∧ e.ident = kv.1
  ranks : (c.pending.map (·.rank)).Nodup
  rankLe : ∀ w ∈ c.pending, w.rank ≤ c.counter
  safe : ∀ w ∈ c.pending, MutsSafe w.muts

theorem ents_of_ent_map {c c' : Cron} {P : CEntry → Bool}
    (hent : ∀ n, c'.ent n = (c.ent n).map (fun x => if P x then x.advance else x)) {kv : SerKey × String}
    (h : ∃ e, c.ent kv.2 = some e ∧ e.ident = kv.1) : ∃ e, c'.ent kv.2 = some e ∧ e.ident = kv.1 := by
  obtain ⟨e, he, hi⟩ := h
  rw [hent, he]
  exact ⟨_, rfl, by dsimp only; split <;> simp [hi]⟩

/-- Both `Pop` (drop the head, push at most one) and an accepted `updateTask` (drop the removed identities,
push the staged occurrences) change the pending bag in this way. -/
theorem ranks_extend {ws fresh : List WTask} {k : Nat} (keep : WTask → Bool)
    (hnd : (ws.map (·.rank)).Nodup) (hle : ∀ w ∈ ws, w.rank ≤ k)
    (hf : fresh.map (·.rank) = List.range' (k + 1) fresh.length) :
    ((ws.filter keep ++ fresh).map (·.rank)).Nodup ∧
    (∀ w ∈ ws.filter keep ++ fresh, w.rank ≤ k + fresh.length) ∧
    ∀ w ∈ ws.filter keep ++ fresh, (w ∈ ws ∧ keep w = true) ∨ k < w.rank := by
  have hfr : ∀ w ∈ fresh, k < w.rank ∧ w.rank ≤ k + fresh.length := fun w hw => by
    have : w.rank ∈ fresh.map (·.rank) := List.mem_map.mpr ⟨w, hw, rfl⟩
    rw [hf] at this
    have := List.mem_range'_1.mp this
    omega
  refine ⟨?_, fun w hw => ?_, fun w hw => ?_⟩
  · rw [List.map_append, hf]
    refine List.nodup_append.mpr ⟨hnd.sublist (List.filter_sublist.map _), List.nodup_range', ?_⟩
    intro x hx y hy
    obtain ⟨w, hw, rfl⟩ := List.mem_map.mp hx
    have := hle w (List.mem_filter.mp hw).1
    have := (List.mem_range'_1.mp hy).1
    omega
  · rcases List.mem_append.mp hw with hw | hw
    · have := hle w (List.mem_filter.mp hw).1; omega
    · exact (hfr w hw).2
  · rcases List.mem_append.mp hw with hw | hw
    · exact .inl (List.mem_filter.mp hw)
    · exact .inr (hfr w hw).1

theorem Core.of_eq {c c' : Cron} (h : Core c) (h1 : c'.fixed = c.fixed) (h2 : c'.ents = c.ents)
    (h3 : c'.entries = c.entries) (h4 : c'.pending = c.pending) (h5 : c'.counter = c.counter) :
    Core c' := by
  refine ⟨h1.trans h.fixed, by rw [h3, h4]; exact h.perm, by rw [h3]; exact h.nodup, ?_,
    by rw [h4]; exact h.ranks, by rw [h4, h5]; exact h.rankLe, by rw [h4]; exact h.safe⟩
  intro kv hkv
  rw [h3] at hkv
  rw [ent_congr h2]
  exact h.ents kv hkv

theorem filter_rank_split {ws : List WTask} {t : WTask} (ht : t ∈ ws)
    (hnd : (ws.map (·.rank)).Nodup) :
    ∃ l1 l2, ws = l1 ++ t :: l2 ∧ ws.filter (fun w => w.rank != t.rank) = l1 ++ l2 := by
  obtain ⟨l1, l2, rfl⟩ := List.append_of_mem ht
  -- `t`'s rank occurs nowhere else: move `t` to the front
  have hn := (List.nodup_cons.mp ((List.perm_middle.map WTask.rank).nodup_iff.mp hnd)).1
  refine ⟨l1, l2, rfl, ?_⟩
  rw [List.filter_append, List.filter_cons_of_neg (by simp), ← List.filter_append, List.filter_eq_self]
  exact fun w hw => by simpa [bne] using fun e : w.rank = t.rank => hn (List.mem_map.mpr ⟨w, hw, e⟩)

theorem Core.lookup {c : Cron} (h : Core c) {t : WTask} (ht : t ∈ c.pending) :
    ∃ e, c.lookup t = some e ∧ e.ident = t.key ∧ c.ent e.name = some e := by
  obtain ⟨kv, hkv, hkv1⟩ := List.mem_map.mp ((h.perm.mem_iff).mp (List.mem_map.mpr ⟨t, ht, rfl⟩))
  obtain ⟨e, he, hi⟩ := h.ents kv hkv
  have hl : c.lookup t = some e := by
    unfold Cron.lookup
    rw [← hkv1, find?_key_of_nodup h.nodup hkv]
    exact he
  exact ⟨e, hl, hi.trans hkv1, lookup_some hl⟩

theorem Core.popNext {c : Cron} (h : Core c) {t : WTask} (ht : c.head = some t)
    (ho : (c.popNext t).oracleExhausted = false) :
    ∃ e o p w l1 l2, c.lookup t = some e ∧ e.ident = t.key ∧ c.ent e.name = some e ∧
      e.nextOcc = some o ∧ e.param = some p ∧ wrap c e p t.muts (c.counter + 1) = some w ∧
      c.pending = l1 ++ t :: l2 ∧
      c.popNext t = { c.setEnt e.advance with pending := l1 ++ l2 ++ [w], counter := c.counter + 1 } := by
  have htm := head_mem ht
  obtain ⟨e, hl, hi, he⟩ := h.lookup htm
  obtain ⟨l1, l2, hsplit, hfilt⟩ := filter_rank_split htm h.ranks
  unfold Cron.popNext at ho ⊢
  rw [hl] at ho ⊢
  dsimp only at ho ⊢
  cases hp : e.param with
  | none => rw [hp] at ho; simp at ho
  | some p =>
    obtain ⟨o, hno, _⟩ := CEntry.param_eq hp
    obtain ⟨w, hw⟩ := wrap_of_safe c e p (c.counter + 1) (h.safe t htm)
    refine ⟨e, o, p, w, l1, l2, rfl, hi, he, hno, hp, hw, hsplit, ?_⟩
    dsimp only
    rw [hw, hfilt]

theorem Core.popNext_core {c : Cron} (h : Core c) {t : WTask} (ht : c.head = some t)
    (ho : (c.popNext t).oracleExhausted = false) : Core (c.popNext t) := by
  obtain ⟨fresh, hpend, hf, hcnt, hfr⟩ := popNext_shape c t
  obtain ⟨r1, r2, _⟩ := ranks_extend _ h.ranks h.rankLe hf
  obtain ⟨f1, f2, _⟩ := popNext_frame c t
  refine ⟨f1.trans h.fixed, ?_, by rw [f2]; exact h.nodup,
    fun kv hkv => ents_of_ent_map (popNext_ent c t) (h.ents kv (f2 ▸ hkv)), hpend ▸ r1,
    by rw [hpend, hcnt]; exact r2, fun x hx => ?_⟩
  · -- the pushed occurrence takes the place of the popped one, under the same identity
    obtain ⟨e, o, p, w, l1, l2, hl, hi, he, hno, hp, hw, hsplit, heq⟩ := h.popNext ht ho
    have hperm := h.perm
    rw [hsplit] at hperm
    rw [heq]
    show ((l1 ++ l2 ++ [w]).map (·.key)).Perm (c.entries.map (·.1))
    refine List.Perm.trans ?_ hperm
    simp only [List.map_append, List.map_cons, List.map_nil, (wrap_some hw).1, CEntry.serKey_param hp, hi]
    exact (List.perm_append_singleton _ _).trans List.perm_middle.symm
  · rw [hpend] at hx
    rcases List.mem_append.mp hx with hx | hx
    · exact h.safe x (List.mem_filter.mp hx).1
    · exact (hfr x hx).2

theorem StagedOK.key {c : Cron} {rk : List SerKey} {s : Staged} (h : StagedOK c rk s) :
    s.w.key = s.ent.ident ∧ MutsSafe s.w.muts ∧
      (s.w.key ∈ c.entries.map (·.1) → s.w.key ∈ rk) := by
  obtain ⟨_, p, muts, hp, hdup, _, hw⟩ := h
  obtain ⟨hwk, hwm, _, hws, _⟩ := wrap_some hw
  refine ⟨hwk.trans (CEntry.serKey_param hp), by rw [hwm]; exact hws, ?_⟩
  intro hmem
  rw [hwk] at hmem ⊢
  obtain ⟨kv, hkv, hkv1⟩ := List.mem_map.mp hmem
  have := hdup (List.any_eq_true.mpr ⟨kv, hkv, by simp [hkv1]⟩)
  simpa using this

theorem Accepted.fresh {c c' : Cron} {a r : List String} {staged : List Staged}
    (hA : Accepted c a r c' staged) :
    (staged.map (·.w)).map (·.rank) = List.range' (c.counter + 1) (staged.map (·.w)).length ∧
      c'.counter = c.counter + (staged.map (·.w)).length := by
  have : (staged.map (·.w)).length = a.length := by rw [List.length_map, ← hA.names, List.length_map]
  rw [this, List.map_map]
  exact ⟨hA.ranks, hA.counter⟩

theorem Accepted.core {c c' : Cron} {a r : List String} {staged : List Staged}
    (hA : Accepted c a r c' staged) (h : Core c) : Core c' := by
  obtain ⟨r1, r2, _⟩ := ranks_extend (fun w => !(c.removedKeys r).contains w.key) h.ranks h.rankLe hA.fresh.1
  refine ⟨hA.fixed, ?_, ?_, ?_, ?_, ?_, ?_⟩
  · rw [hA.pending, hA.entries]
    simp only [List.map_append, List.map_map]
    refine List.Perm.append ?_ (by rfl)
    have := List.Perm.filter (fun k => !(c.removedKeys r).contains k) h.perm
    rw [List.filter_map, List.filter_map] at this
    exact this
  · rw [hA.entries]
    simp only [List.map_append, List.map_map]
    refine List.nodup_append.mpr ⟨h.nodup.sublist (List.filter_sublist.map _), hA.keys, ?_⟩
    intro x hx y hy hxy
    obtain ⟨kv, hkv, rfl⟩ := List.mem_map.mp hx
    obtain ⟨s, hs, rfl⟩ := List.mem_map.mp hy
    obtain ⟨hkv1, hkv2⟩ := List.mem_filter.mp hkv
    have hk : kv.1 = s.w.key := hxy
    have := (hA.ok s hs).key.2.2 (hk ▸ List.mem_map.mpr ⟨kv, hkv1, rfl⟩)
    simp [hk, this] at hkv2
  · intro kv hkv
    rw [hA.entries] at hkv
    rcases List.mem_append.mp hkv with hkv | hkv
    · exact ents_of_ent_map hA.ent (h.ents kv (List.mem_filter.mp hkv).1)
    · obtain ⟨s, hs, rfl⟩ := List.mem_map.mp hkv
      exact ents_of_ent_map hA.ent ⟨s.ent, (hA.ok s hs).1, (hA.ok s hs).key.1.symm⟩
  · rw [hA.pending]; exact r1
  · rw [hA.pending, hA.fresh.2]; exact r2
  · intro w hw
    rw [hA.pending] at hw
    rcases List.mem_append.mp hw with hw | hw
    · exact h.safe w (List.mem_filter.mp hw).1
    · obtain ⟨s, hs, rfl⟩ := List.mem_map.mp hw
      exact (hA.ok s hs).key.2.1

theorem editTask_eq (c : Cron) (a r : List String) :
    c.editTask a r =
      ((c.stopTimerRaw.updateTask a r).1.resetTimer, (c.stopTimerRaw.updateTask a r).2) := rfl

theorem updateTask_frame {c : Cron} (hf : c.fixed = true) (a r : List String) :
    (c.updateTask a r).1.fixed = true ∧ (c.updateTask a r).1.clock = c.clock ∧
      (c.oracleExhausted = true → (c.updateTask a r).1.oracleExhausted = true) ∧
      (c.updateTask a r).1.ents.map (·.name) = c.ents.map (·.name) := by
  rcases updateTask_spec hf a r with ⟨_, e | e⟩ | ⟨_, staged, hA⟩
  · rw [e]; exact ⟨hf, rfl, id, rfl⟩
  · rw [e]; exact ⟨hf, rfl, fun _ => rfl, rfl⟩
  · exact ⟨hA.fixed, hA.clock, fun h => by rw [hA.oracle]; exact h, hA.entNames⟩

theorem step_frame {c : Cron} (hf : c.fixed = true) (op : COp) :
    (c.step op).fixed = true ∧ (c.oracleExhausted = true → (c.step op).oracleExhausted = true) ∧
      (c.step op).ents.map (·.name) = c.ents.map (·.name) := by
  cases op with
  | pop =>
    rcases step_pop c with ⟨_, e⟩ | ⟨t, _, e⟩ <;> rw [step, e]
    · exact ⟨hf, id, rfl⟩
    · obtain ⟨f1, _, _, _, f5, f6⟩ := popNext_frame c t
      exact ⟨by simp [f1, hf], fun h => by simp [f6 h], by simp [f5]⟩
  | edit a r =>
    simp only [step, editTask_eq, resetTimer_fixed, resetTimer_oracle, resetTimer_ents]
    obtain ⟨f1, _, f4, f5⟩ := updateTask_frame (c := c.stopTimerRaw) hf a r
    exact ⟨f1, f4, f5⟩
  | start => exact ⟨by simp [step, startTimer, hf], fun h => by simp [step, startTimer, h], by simp [step, startTimer]⟩
  | peek | stop | advance t | consume => exact ⟨hf, id, rfl⟩

theorem step_fixed {c : Cron} (hf : c.fixed = true) (op : COp) : (c.step op).fixed = true :=
  (step_frame hf op).1

theorem pop_now (c : Cron) : c.pop.1.clock.now = c.clock.now := by
  rcases step_pop c with ⟨_, e⟩ | ⟨t, _, e⟩ <;> rw [e]
  simp only [resetTimer_now, (popNext_frame c t).2.2.1]

theorem editTask_now {c : Cron} (hf : c.fixed = true) (a r : List String) :
    (c.editTask a r).1.clock.now = c.clock.now := by
  rw [editTask_eq]
  simp only [resetTimer_now]
  rw [(updateTask_frame (c := c.stopTimerRaw) hf a r).2.1]
  exact Clock.stopAndDrain_now _

def Inv (c : Cron) : Prop := c.fixed = true ∧ (c.oracleExhausted = false → Core c)

theorem Core.resetTimer {c : Cron} (h : Core c) : Core c.resetTimer :=
  h.of_eq (by simp) (by simp) (by simp) (by simp) (by simp)

theorem Core.step {c : Cron} (h : Core c) (op : COp) (ho : (c.step op).oracleExhausted = false) :
    Core (c.step op) := by
  cases op with
  | pop =>
    rcases step_pop c with ⟨_, e⟩ | ⟨t, hh, e⟩ <;> rw [Cron.step, e] at ho ⊢
    · exact h
    · exact (h.popNext_core hh (by simpa using ho)).resetTimer
  | peek => exact h
  | edit a r =>
    simp only [Cron.step, editTask_eq] at ho ⊢
    have h0 : Core c.stopTimerRaw := h.of_eq rfl rfl rfl rfl rfl
    apply Core.resetTimer
    rcases updateTask_spec h0.fixed a r with ⟨_, e | e⟩ | ⟨_, staged, hA⟩
    · rw [e]; exact h0
    · rw [e] at ho; simp at ho
    · exact hA.core h0
  | start => exact Core.resetTimer (c := { c with started := true }) (h.of_eq rfl rfl rfl rfl rfl)
  | stop | advance t | consume => exact h.of_eq rfl rfl rfl rfl rfl

theorem Inv.step {c : Cron} (h : Inv c) (op : COp) : Inv (c.step op) := by
  refine ⟨step_fixed h.1 op, fun ho => ?_⟩
  have : c.oracleExhausted = false := by
    cases hc : c.oracleExhausted with
    | false => rfl
    | true => rw [(step_frame h.1 op).2.1 hc] at ho; cases ho
  exact (h.2 this).step op ho

theorem Inv.run {c : Cron} (h : Inv c) (ops : List COp) : Inv (c.run ops) :=
  List.foldlRecOn ops Cron.step h fun _ hc op _ => hc.step op

theorem Inv.init {c : Cron} (hf : c.fixed = true) (he : c.entries = []) (hp : c.pending = []) :
    Inv c := by
  refine ⟨hf, fun _ => ⟨hf, ?_, ?_, ?_, ?_, ?_, ?_⟩⟩ <;> simp [he, hp]

structure ClockInv (c : Cron) : Prop where
  fixed : c.fixed = true
  sane : ClockSane c.clock
  quiet : (c.started = false ∨ c.pending = []) → c.clock.armed = none ∧ c.clock.pending = false

theorem resetTimer_clock_started {c : Cron} (hs : c.started = true) :
    c.resetTimer.clock =
      match c.head with
      | some h => c.clock.stopAndDrain.reset (h.task.scheduledAt - c.clock.stopAndDrain.now)
      | none => c.clock.stopAndDrain := by
  unfold resetTimer
  simp only [hs, Bool.not_true, Bool.and_false, Bool.false_eq_true, if_false]
  cases c.head <;> rfl

theorem resetTimer_follows {c : Cron} (hsane : ClockSane c.clock) (hs : c.started = true) :
    TimerFollowsHead c.resetTimer := by
  unfold TimerFollowsHead
  rw [resetTimer_head, resetTimer_clock_started hs]
  constructor
  · intro h hh
    rw [hh]
    exact reset_follows _ _
  · intro hh
    rw [hh]
    exact stopAndDrain_quiet hsane

theorem clockInv_resetTimer {c : Cron} (hf : c.fixed = true) (hsane : ClockSane c.clock)
    (hq : c.started = false → c.clock.armed = none ∧ c.clock.pending = false) :
    ClockInv c.resetTimer := by
  cases hs : c.started with
  | false =>
    rw [show c.resetTimer = c by unfold resetTimer; simp [hf, hs]]
    exact ⟨hf, hsane, fun _ => hq hs⟩
  | true =>
    refine ⟨by simp [hf], ?_, ?_⟩
    · rw [resetTimer_clock_started hs]
      split
      · exact reset_sane _ (stopAndDrain_quiet hsane).2
      · exact stopAndDrain_sane _
    · intro hpre
      rw [resetTimer_started, resetTimer_pending] at hpre
      rcases hpre with hpre | hpre
      · rw [hs] at hpre; cases hpre
      · rw [resetTimer_clock_started hs, (head_none_iff c).mpr hpre]
        exact stopAndDrain_quiet hsane

theorem ClockInv.step {c : Cron} (h : ClockInv c) (op : COp) : ClockInv (c.step op) := by
  cases op with
  | pop =>
    rcases step_pop c with ⟨_, e⟩ | ⟨t, _, e⟩ <;> rw [Cron.step, e]
    · exact h
    · obtain ⟨f1, _, f3, f4, _⟩ := popNext_frame c t
      exact clockInv_resetTimer (f1.trans h.fixed) (by rw [f3]; exact h.sane)
        fun hs => by rw [f3]; exact h.quiet (.inl (f4 ▸ hs))
  | peek => exact h
  | edit a r =>
    simp only [Cron.step, editTask_eq]
    obtain ⟨f1, f2, _⟩ := updateTask_frame (c := c.stopTimerRaw) h.fixed a r
    apply clockInv_resetTimer f1
    · rw [f2]; exact stopAndDrain_sane _
    · intro _; rw [f2]; exact stopAndDrain_quiet h.sane
  | start =>
    exact clockInv_resetTimer (c := { c with started := true }) h.fixed h.sane
      (fun hs => by cases hs)
  | stop => exact ⟨h.fixed, stopAndDrain_sane _, fun _ => stopAndDrain_quiet h.sane⟩
  | advance t =>
    refine ⟨h.fixed, advance_sane t h.sane, fun hpre => ?_⟩
    obtain ⟨q1, q2⟩ := h.quiet hpre
    rcases (Clock.advance_cases c.clock t).2 with ⟨e1, e2⟩ | ⟨e, _⟩
    · exact ⟨e1.trans q1, e2.trans q2⟩
    · rw [q1] at e; cases e
  | consume =>
    refine ⟨h.fixed, consume_sane _, fun hpre => ?_⟩
    obtain ⟨q1, q2⟩ := h.quiet hpre
    exact ⟨q1, rfl⟩

theorem ClockInv.run {c : Cron} (h : ClockInv c) (ops : List COp) : ClockInv (c.run ops) :=
  List.foldlRecOn ops Cron.step h fun _ hc op _ => hc.step op

theorem ClockInv.init {c : Cron} (hf : c.fixed = true) (ha : c.clock.armed = none)
    (hp : c.clock.pending = false) : ClockInv c :=
  ⟨hf, fun h => (by rw [ha] at h; cases h), fun _ => ⟨ha, hp⟩⟩

theorem ClockInv.follows {c : Cron} (h : ClockInv c) (op : COp)
    (hop : op = .pop ∨ (∃ a r, op = .edit a r) ∨ op = .start)
    (hs : (c.step op).started = true) : TimerFollowsHead (c.step op) := by
  rcases hop with rfl | ⟨a, r, rfl⟩ | rfl
  · rcases step_pop c with ⟨hh, e⟩ | ⟨t, _, e⟩ <;> rw [Cron.step, e] at hs ⊢
    · exact ⟨fun t ht => (nomatch hh.symm.trans ht), fun _ => h.quiet (.inr ((head_none_iff c).mp hh))⟩
    · exact resetTimer_follows (by rw [(popNext_frame c t).2.2.1]; exact h.sane) (by simpa using hs)
  · simp only [Cron.step, editTask_eq] at hs ⊢
    obtain ⟨f1, f2, _⟩ := updateTask_frame (c := c.stopTimerRaw) h.fixed a r
    exact resetTimer_follows (by rw [f2]; exact stopAndDrain_sane _) (by simpa using hs)
  · exact resetTimer_follows (c := { c with started := true }) h.sane rfl

theorem sorted_perm (ws : List WTask) : (sorted ws).Perm ws := List.mergeSort_perm _ _

theorem sorted_pairwise (ws : List WTask) :
    (sorted ws).Pairwise (fun a b => (wkey b).less (wkey a) = false) := by
  -- the comparison of `sorted` is "not after": `a` before `b` unless `b` is strictly less
  have hle : ∀ a b : WTask, ((wkey a).less (wkey b) || !(wkey b).less (wkey a)) = true ↔
      (wkey b).less (wkey a) = false := by
    intro a b
    cases h : (wkey b).less (wkey a) <;> simp [Key.less_asymm, h]
  refine (List.pairwise_mergeSort (le := fun a b => (wkey a).less (wkey b) || !(wkey b).less (wkey a))
    (fun a b c hab hbc => ?_) (fun a b => ?_) ws).imp fun {a b} hab => (hle a b).mp hab
  · exact (hle a c).mpr (Key.less_ntrans ((hle b c).mp hbc) ((hle a b).mp hab))
  · cases h : (wkey b).less (wkey a) <;> simp [Key.less_asymm, h]

theorem sorted_head {c : Cron} (hr : (c.pending.map (·.rank)).Nodup) :
    (sorted c.pending).head? = c.head := by
  have hperm := sorted_perm c.pending
  have hpw := sorted_pairwise c.pending
  cases hs : sorted c.pending with
  | nil =>
    rw [hs] at hperm
    have : c.pending = [] := List.Perm.eq_nil (hperm.symm)
    simp [(head_none_iff c).mpr this]
  | cons s0 rest =>
    rw [hs] at hperm hpw
    have hs0 : s0 ∈ c.pending := hperm.subset (by simp)
    cases hh : c.head with
    | none => rw [(head_none_iff c).mp hh] at hs0; cases hs0
    | some h =>
      have hm := head_mem hh
      have h1 := head_min hh s0 hs0
      have hm' : h ∈ s0 :: rest := hperm.symm.subset hm
      simp only [List.head?_cons]
      rcases List.mem_cons.mp hm' with rfl | hrest
      · rfl
      · have h2 := (List.pairwise_cons.mp hpw).1 h hrest
        -- neither key is below the other, so they are equal, ranks included
        rw [eq_of_map_eq_of_nodup hr hs0 hm (congrArg Key.rank (Key.eq_of_not_less h1 h2))]

/-- the names of the entries whose cursor the step advances -/
def advSet (c : Cron) : COp → String → Bool
  | .pop => fun n => c.popEnt.any (fun e => n == e.name)
  | .edit a r => fun n => (c.editTask a r).2 && a.contains n
  | _ => fun _ => false

/-- `Pop`, either code version: exactly the entry found under the head's identity moves on -/
theorem pop_ent (c : Cron) (n : String) :
    c.pop.1.ent n = (c.ent n).map (fun x => if c.popEnt.any (fun e => x.name == e.name) then x.advance else x) := by
  rcases step_pop c with ⟨hh, e⟩ | ⟨t, hh, e⟩ <;> rw [e]
  · simp [popEnt, hh]
  · simp only [resetTimer_ent, popNext_ent, popEnt, hh, Option.bind_some]

theorem step_ent {c : Cron} (hf : c.fixed = true) (op : COp) (n : String) :
    (c.step op).ent n = (c.ent n).map (fun x => if advSet c op x.name then x.advance else x) := by
  cases op with
  | pop => exact pop_ent c n
  | edit a r =>
    simp only [step, advSet, editTask_eq, resetTimer_ent]
    rcases updateTask_spec (c := c.stopTimerRaw) hf a r with ⟨hr, e⟩ | ⟨hr, staged, hA⟩
    · simp only [hr, Bool.false_and, Bool.false_eq_true, if_false]
      rcases e with e | e <;> rw [e] <;> change c.ent n = _ <;> simp
    · rw [hA.ent n]
      simp only [hr, Bool.true_and]
      rfl
  | peek => simp [step, advSet]
  | start => simp [step, advSet, startTimer]; change c.ent n = _; simp
  | stop | advance t | consume => simp [step, advSet]; change c.ent n = _; simp

/-- ghost log of a `Pop`: the (entry, un-mutated occurrence) handed to `wrap` by `pushNext` -/
def popLog (c : Cron) : List (String × Time) :=
  match c.popEnt with
  | none => []
  | some e =>
    match e.param with
    | none => []
    | some p => (p.scheduledAt.map (fun o => (e.name, o))).toList

/-- ghost log of an `EditTask`: the (entry, un-mutated occurrence) pairs handed to `wrap` by the
staging loop of an accepted edit, in staging order -/
def editLog (c : Cron) (a r : List String) : List (String × Time) :=
  match updateTask.stage (c.removedKeys r) c a [] c.counter with
  | (_, some (staged, _)) =>
    staged.filterMap (fun s => s.ent.param.bind (fun p => p.scheduledAt.map (fun o => (s.ent.name, o))))
  | (_, none) => []

def stepLog (c : Cron) : COp → List (String × Time)
  | .pop => c.popLog
  | .edit a r => c.stopTimerRaw.editLog a r
  | _ => []

def runLog (c : Cron) : List COp → List (String × Time)
  | [] => []
  | op :: ops => stepLog c op ++ runLog (c.step op) ops

def logFor (n : String) (log : List (String × Time)) : List Time :=
  log.filterMap (fun x => if x.1 == n then some x.2 else none)

theorem logFor_append (n : String) (l1 l2 : List (String × Time)) :
    logFor n (l1 ++ l2) = logFor n l1 ++ logFor n l2 := by
  simp [logFor, List.filterMap_append]

theorem logFor_cons (n : String) (x : String × Time) (l : List (String × Time)) :
    logFor n (x :: l) = if x.1 = n then x.2 :: logFor n l else logFor n l := by
  unfold logFor
  rw [List.filterMap_cons]
  by_cases h : x.1 = n <;> simp [h]

theorem logFor_advanced {c : Cron} {l : List CEntry} (hl : ∀ x ∈ l, c.ent x.name = some x)
    (hnd : (l.map (·.name)).Nodup) {n : String} {e : CEntry} (he : c.ent n = some e) :
    logFor n (l.filterMap fun x => x.nextOcc.map fun o => (x.name, o)) =
      if (l.map (·.name)).contains n then e.nextOcc.toList else [] := by
  induction l with
  | nil => rfl
  | cons x rest ih =>
    obtain ⟨hx, hnd'⟩ := List.nodup_cons.mp hnd
    have ih' := ih (fun y hy => hl y (List.mem_cons_of_mem _ hy)) hnd'
    have hxe := hl x List.mem_cons_self
    rw [List.filterMap_cons, List.map_cons, List.contains_cons]
    by_cases hxn : x.name = n
    · have : x = e := Option.some.inj ((hxn ▸ hxe).symm.trans he)
      subst this
      have hc : (rest.map (·.name)).contains n = false := by simpa [← hxn] using hx
      rw [hc] at ih'
      have hb : (n == x.name) = true := by simp [hxn]
      cases ho : x.nextOcc with
      | none => simp only [Option.map_none, hb, Bool.true_or, if_true, Option.toList_none]; exact ih'
      | some o =>
        simp only [Option.map_some, hb, Bool.true_or, if_true, Option.toList_some]
        rw [logFor_cons, if_pos hxn, ih']
        rfl
    · have hb : (n == x.name) = false := by simpa using fun h : n = x.name => hxn h.symm
      rw [hb, Bool.false_or, ← ih']
      cases x.nextOcc with
      | none => rfl
      | some o => simp only [Option.map_some]; rw [logFor_cons, if_neg hxn]
theorem Accepted.idents_nodup {c c' : Cron} {a r : List String} {staged : List Staged}
    (hA : Accepted c a r c' staged) : (a.map (fun n => (c.ent n).map CEntry.ident)).Nodup := by
  have : a.map (fun n => (c.ent n).map CEntry.ident) = (staged.map (·.w.key)).map some := by
    rw [← hA.names, List.map_map, List.map_map]
    exact List.map_congr_left fun s hs => by simp [(hA.ok s hs).1, (hA.ok s hs).key.1]
  rw [this]
  exact hA.keys.map some fun _ _ h h' => h (Option.some.inj h')

theorem Accepted.staged_of_mem {c c' : Cron} {a r : List String} {staged : List Staged}
    (hA : Accepted c a r c' staged) {n : String} (hn : n ∈ a) {e : CEntry} (he : c.ent n = some e) :
    ∃ s ∈ staged, s.ent = e ∧ StagedOK c (c.removedKeys r) s := by
  rw [← hA.names] at hn
  obtain ⟨s, hs, rfl⟩ := List.mem_map.mp hn
  exact ⟨s, hs, Option.some.inj ((hA.ok s hs).1.symm.trans he), hA.ok s hs⟩

theorem editLog_accept {c c' : Cron} {a r : List String} {staged : List Staged}
    (hA : Accepted c a r c' staged) :
    c.editLog a r = (staged.map (·.ent)).filterMap fun x => x.nextOcc.map fun o => (x.name, o) := by
  unfold editLog
  rw [hA.stage]
  dsimp only
  rw [List.filterMap_map]
  congr 1; funext s
  simp only [Function.comp, CEntry.param]
  cases s.ent.nextOcc <;> rfl

theorem editLog_reject {c : Cron} {a r : List String}
    (h : (c.updateTask a r).2 = false) : c.editLog a r = [] := by
  unfold editLog
  rw [updateTask_eq] at h
  cases hst : updateTask.stage (c.removedKeys r) c a [] c.counter with
  | mk c1 o =>
    cases o with
    | none => rfl
    | some res => rw [hst] at h; cases h

theorem popLog_eq (c : Cron) :
    c.popLog = c.popEnt.toList.filterMap fun x => x.nextOcc.map fun o => (x.name, o) := by
  unfold popLog
  cases c.popEnt with
  | none => rfl
  | some e =>
    simp only [CEntry.param, Option.toList_some, List.filterMap_cons, List.filterMap_nil]
    cases e.nextOcc <;> rfl

theorem popEnt_ent {c : Cron} {e : CEntry} (h : c.popEnt = some e) : c.ent e.name = some e :=
  let ⟨_, _, h⟩ := Option.bind_eq_some_iff.mp h
  lookup_some h

theorem stepLog_spec {c : Cron} (hf : c.fixed = true) (op : COp) {n : String} {e : CEntry}
    (he : c.ent n = some e) :
    logFor n (stepLog c op) = if advSet c op n then e.nextOcc.toList else [] := by
  cases op with
  | pop =>
    show logFor n c.popLog = if c.popEnt.any (fun e => n == e.name) then _ else _
    rw [popLog_eq]
    cases hpe : c.popEnt with
    | none => rfl
    | some e1 =>
      rw [Option.toList_some, logFor_advanced (l := [e1]) (fun x hx => by cases List.mem_singleton.mp hx; exact popEnt_ent hpe)
        (by simp) he]
      simp
  | edit a r =>
    show logFor n (c.stopTimerRaw.editLog a r) = if (c.stopTimerRaw.updateTask a r).2 && a.contains n then _ else _
    rcases updateTask_spec (c := c.stopTimerRaw) hf a r with ⟨hr, _⟩ | ⟨hr, staged, hA⟩
    · rw [editLog_reject hr, hr]; rfl
    · have hn : (staged.map (·.ent)).map (·.name) = a := by rw [List.map_map]; exact hA.names
      rw [editLog_accept hA, hr, logFor_advanced (c := c.stopTimerRaw) ?_ 
        (hn ▸ (List.pairwise_map.mp hA.idents_nodup).imp fun hab e => hab (by rw [e])) he, hn]
      · rfl
      · intro x hx
        obtain ⟨s, hs, rfl⟩ := List.mem_map.mp hx
        exact (hA.ok s hs).1
  | peek | start | stop | advance t | consume => rfl

def between (occ : List Time) (a b : Time) : List Time :=
  occ.filter (fun o => decide (a < o) && decide (o ≤ b))

theorem mem_between {occ : List Time} {a b o : Time} : o ∈ between occ a b ↔ o ∈ occ ∧ a < o ∧ o ≤ b := by
  simp [between]

theorem between_self (occ : List Time) (a : Time) : between occ a a = [] :=
  List.filter_eq_nil_iff.mpr fun o _ => by
    simp only [Bool.and_eq_true, decide_eq_true_eq, not_and]
    tomega

theorem between_cons {occ : List Time} (hs : occ.Pairwise (· < ·)) {a b o1 : Time}
    (hf : occ.find? (fun o => o > a) = some o1) (hb : o1 ≤ b) :
    between occ a b = o1 :: between occ o1 b := by
  obtain ⟨ho1, l1, l2, rfl, hl1⟩ := List.find?_eq_some_iff_append.mp hf
  have ho1' : a < o1 := by simpa using ho1
  have hl2 := (List.pairwise_cons.mp (List.pairwise_append.mp hs).2.1).1
  -- nothing before `o1` exceeds `a`; everything after it exceeds `o1`
  have e1 : ∀ c, a ≤ c → l1.filter (fun o => decide (c < o) && decide (o ≤ b)) = [] := fun c hc =>
    List.filter_eq_nil_iff.mpr fun o ho => by
      have := hl1 o ho
      simp only [gt_iff_lt, Bool.not_eq_true', decide_eq_false_iff_not] at this
      have : ¬ c < o := by tomega
      simp [this]
  have e3 : l2.filter (fun o => decide (a < o) && decide (o ≤ b)) =
      l2.filter (fun o => decide (o1 < o) && decide (o ≤ b)) :=
    List.filter_congr fun o ho => by
      have h1 : o1 < o := hl2 o ho
      have h2 : a < o := by tomega
      simp [h1, h2]
  have h4 : ¬ o1 < o1 := by tomega
  simp [between, List.filter_append, e1 a (by tomega), e1 o1 (by tomega),
    e3, ho1', hb, h4]

theorem between_sorted {occ : List Time} (hs : occ.Pairwise (· < ·)) (a b : Time) :
    (between occ a b).Pairwise (· < ·) :=
  hs.sublist List.filter_sublist

theorem sorted_split {occ : List Time} (hs : occ.Pairwise (· < ·)) (a : Time) :
    occ = occ.filter (fun o => decide (o ≤ a)) ++ occ.filter (fun o => decide (a < o)) := by
  induction occ with
  | nil => rfl
  | cons x rest ih =>
    obtain ⟨hx, hrest⟩ := List.pairwise_cons.mp hs
    by_cases hxa : x ≤ a
    · have : ¬ a < x := by tomega
      simp only [List.filter_cons, hxa, this, decide_true, decide_false, if_true, Bool.false_eq_true, if_false,
        List.cons_append]
      rw [← ih hrest]
    · have hax : a < x := by tomega
      have h1 : rest.filter (fun o => decide (o ≤ a)) = [] :=
        List.filter_eq_nil_iff.mpr fun o ho => by have := hx o ho; simp; tomega
      have h2 : rest.filter (fun o => decide (a < o)) = rest :=
        List.filter_eq_self.mpr fun o ho => by have := hx o ho; simp; tomega
      simp [hxa, hax, h1, h2]

theorem between_infix {occ : List Time} (hs : occ.Pairwise (· < ·)) (a b : Time) :
    ∃ pre post, occ = pre ++ between occ a b ++ post ∧ (∀ o ∈ pre, o ≤ a) ∧
      (∀ o ∈ post, ∀ x ∈ between occ a b, x < o) := by
  have h1 := sorted_split hs a
  have h2 := sorted_split (hs.sublist (List.filter_sublist (p := fun o => decide (a < o)))) b
  have hb : (occ.filter fun o => decide (a < o)).filter (fun o => decide (o ≤ b)) = between occ a b := by
    rw [List.filter_filter]; unfold between; congr 1; funext o; exact Bool.and_comm _ _
  rw [hb] at h2
  have hpost : ∀ o ∈ (occ.filter fun o => decide (a < o)).filter (fun o => decide (b < o)), b < o :=
    fun o ho => by simpa using (List.mem_filter.mp ho).2
  refine ⟨_, _, by rw [List.append_assoc, ← h2]; exact h1, fun o ho => by simpa using (List.mem_filter.mp ho).2,
    fun o ho x hx => ?_⟩
  · have := hpost o ho
    have : x ≤ b := by have := (List.mem_filter.mp hx).2; simp at this; exact this.2
    tomega

theorem run_stream {c0 : Cron} (hf : c0.fixed = true) (ops : List COp) {n : String} {e0 : CEntry}
    (h0 : c0.ent n = some e0) (hocc : e0.occ.Pairwise (· < ·)) :
    ∃ e, (c0.run ops).ent n = some e ∧ e.occ = e0.occ ∧ e0.prev ≤ e.prev ∧
      (e.prev = e0.prev ∨ e.prev ∈ e0.occ) ∧
      logFor n (runLog c0 ops) = between e0.occ e0.prev e.prev := by
  induction ops generalizing c0 e0 with
  | nil =>
    refine ⟨e0, h0, rfl, ?_, Or.inl rfl, ?_⟩
    · tomega
    · simp [runLog, logFor, between_self]
  | cons op ops ih =>
    -- a step that advances `n`'s cursor logs exactly the occurrence the cursor moves to: `between_cons`
    have hstep := step_ent hf op n
    rw [h0, Option.map_some] at hstep
    have hen := (ent_some h0).1
    have hlog := stepLog_spec hf op h0
    rw [hen] at hstep
    simp only [run_cons, runLog, logFor_append]
    by_cases hadv : advSet c0 op n = true
    · simp only [hadv, if_true] at hstep hlog
      cases hno : e0.nextOcc with
      | none =>
        rw [CEntry.advance_of_none hno] at hstep
        obtain ⟨e, he, ho, hle, hin, hl⟩ := ih (step_fixed hf op) hstep hocc
        refine ⟨e, he, ho, hle, hin, ?_⟩
        rw [hlog, hno, hl]; simp
      | some o1 =>
        have hadv1 := CEntry.advance_prev hno
        obtain ⟨e, he, ho, hle, hin, hl⟩ := ih (step_fixed hf op) hstep
          (by rw [CEntry.advance_occ]; exact hocc)
        rw [hadv1] at ho hle hin hl
        obtain ⟨hgt, hmem⟩ := CEntry.nextOcc_gt hno
        refine ⟨e, he, ho, ?_, ?_, ?_⟩
        · have : o1 ≤ e.prev := hle
          tomega
        · rcases hin with h | h
          · right; rw [h]; exact hmem
          · right; exact h
        · rw [hlog, hno, hl]
          simp only [Option.toList_some, List.singleton_append]
          exact (between_cons hocc hno hle).symm
    · have hadv' : advSet c0 op n = false := by simpa using hadv
      simp only [hadv', Bool.false_eq_true, if_false] at hstep hlog
      obtain ⟨e, he, ho, hle, hin, hl⟩ := ih (step_fixed hf op) hstep hocc
      refine ⟨e, he, ho, hle, hin, ?_⟩
      rw [hlog, hl]; simp

theorem sorted_getLast {l : List Time} (hs : l.Pairwise (· < ·)) {x : Time} (hx : x ∈ l)
    (hmax : ∀ y ∈ l, y ≤ x) : l.getLast? = some x := by
  -- nothing can follow the maximum of an increasing list
  obtain ⟨s, t, rfl⟩ := List.append_of_mem hx
  cases t with
  | nil => simp
  | cons y t =>
    have h1 := (List.pairwise_cons.mp (List.pairwise_append.mp hs).2.1).1 y (by simp)
    have h2 := hmax y (by simp)
    exfalso; tomega

theorem run_fixed {c : Cron} (hf : c.fixed = true) (ops : List COp) : (c.run ops).fixed = true :=
  List.foldlRecOn (motive := fun c => c.fixed = true) ops Cron.step hf fun _ hc op _ => step_fixed hc op

theorem run_names {c : Cron} (hf : c.fixed = true) (ops : List COp) :
    (c.run ops).ents.map (·.name) = c.ents.map (·.name) := by
  induction ops generalizing c with
  | nil => rfl
  | cons op ops ih => rw [run_cons, ih (step_fixed hf op), (step_frame hf op).2.2]

theorem mem_step_ents {c : Cron} (hf : c.fixed = true) (hu : NamesUnique c.ents) (op : COp)
    {e' : CEntry} (h : e' ∈ (c.step op).ents) :
    ∃ e ∈ c.ents, e' = if advSet c op e.name then e.advance else e := by
  have h1 := ent_of_mem (namesUnique_of_names (step_frame hf op).2.2 hu) h
  rw [step_ent hf] at h1
  obtain ⟨e, hx, h1⟩ := Option.map_eq_some_iff.mp h1
  exact ⟨e, (ent_some hx).2, h1.symm⟩

theorem step_ents_of_mem {c : Cron} (hf : c.fixed = true) (hu : NamesUnique c.ents) (op : COp)
    {e : CEntry} (h : e ∈ c.ents) :
    (if advSet c op e.name then e.advance else e) ∈ (c.step op).ents := by
  have h1 := ent_of_mem hu h
  have h2 := step_ent hf op e.name
  rw [h1, Option.map_some] at h2
  exact (ent_some h2).2

end Cron

namespace CronEx
def entA : CEntry :=
  { name := "a", base := { workId := some "wa" }, hash := "h1", prev := 0,
    occ := [3000000, 6000000, 9000000, 12000000, 15000000] }
def entB : CEntry :=
  { name := "b", base := { workId := some "wb", priority := some 1 }, hash := "h2", prev := 1000000,
    occ := [2000000, 4000000, 6000000, 8000000, 10000000] }
/-- a second Entry object with the identity of `entA` (same row, same schedule hash) -/
def entA' : CEntry := { entA with name := "a2", prev := 3000000 }
/-- an entry whose RandomizeScheduledAt label cannot be parsed -/
def entBad : CEntry :=
  { name := "bad", base := { workId := some "wx", meta_ := some [(Mut.labelMax, "zzz")] }, hash := "h3",
    prev := 0, occ := [5000000, 7000000] }
def store0 (fixed : Bool := true) : Cron :=
  { fixed := fixed, ents := [entA, entB, entA', entBad], clock := { now := 500000 } }
def store1 (fixed : Bool := true) : Cron := ((store0 fixed).editTask ["a", "b"] []).1
end CronEx

end Gk
