/-
C05 / C20 (liveness side): the setting (`Live.World.UserOk`, `DriverOk`, `Script`, `init'`),
the "ghost fire" technique that lifts the hook-timer invariant `Inv` (Gk/Proofs/Hook.lean) across the
window in which the scheduler has consumed the timer fire, the weaker hook-timer state `Obs.Loose` that
survives a repository write the hook was not told about (D21, `SAct.markDispatchedCore`) until the pending
restart of the timer, the inductive invariant `LiveInv`, and (C20) `DispInv`: a task stored as dispatched was
started or is held. Both invariants are followed along the scheduler's transitions `World.Sched`
(Gk/Proofs/Sched.lean): one case for each leaf of `World.sched`, with `StickyOk`, the control-flow part, apart.
-/
import Gk.Basic
import Gk.Repo
import Gk.Hook
import Gk.World
import Gk.Proofs.GetNext
import Gk.Proofs.Hook
import Gk.Proofs.RepoStep
import Gk.Proofs.Sched
namespace Gk

theorem Obs.ghost_setRepo (o : Obs) (r : Repo) :
    ({ o with repo := r } : Obs).ghost = { o.ghost with repo := r } := rfl

theorem ghost_advance {o : Obs} (hd : o.Dead) (t : Time) :
    ({ o with clock := o.clock.advance t } : Obs).Dead ∧
    ({ o with clock := o.clock.advance t } : Obs).ghost =
      { o.ghost with clock := o.ghost.clock.advance t } := by
  obtain ⟨r, h, c⟩ := o
  obtain ⟨n, a, p⟩ := c
  obtain ⟨h1, h2⟩ := hd
  simp only at h1 h2
  subst h1; subst h2
  simp [Obs.Dead, Obs.ghost, Clock.advance, Clock.fire]

/-- `o'` is `o` after a hook call that did not re-arm -/
structure Obs.NoTouch (o' o : Obs) : Prop where
  repo : o'.repo = o.repo
  clock : o'.clock = o.clock
  cached : o'.hook.cached = o.hook.cached
  stale : o'.hook.stale = false → o.hook.stale = false

theorem Obs.NoTouch.refl (o : Obs) : Obs.NoTouch o o := ⟨rfl, rfl, rfl, id⟩

theorem Obs.NoTouch.dead {o' o : Obs} (h : Obs.NoTouch o' o) (hd : o.Dead) : o'.Dead := by
  unfold Obs.Dead; rw [h.clock]; exact hd

theorem Obs.act_noTouch (o : Obs) {a : Hook.Act} (ha : a ≠ .rearm) (f : Option Err) : Obs.NoTouch (o.act a f) o := by
  cases a
  · exact absurd rfl ha
  · exact Obs.NoTouch.refl o
  · exact ⟨rfl, rfl, rfl, fun h => Bool.noConfusion h⟩

theorem Obs.Held.transfer {o o' : Obs} {t : Task} (h : o.Held t)
    (hc : o'.hook.cached = o.hook.cached) (hst : o'.hook.stale = false → o.hook.stale = false)
    (hr : ∀ u ∈ o.repo.tasks, u.id = t.id → u.state = .scheduled →
      ∃ u' ∈ o'.repo.tasks, u'.id = t.id ∧ u'.state = .scheduled) : o'.Held t := by
  obtain ⟨h1, u, hu, hid, hs⟩ := h
  exact ⟨fun c0 a b => h1 c0 (hc ▸ a) (hst b), hr u hu hid hs⟩

def Obs.OOp.isUser : Obs.OOp → Prop
  | .add _ _ | .update _ _ | .cancel _ => True
  | _ => False

theorem Obs.OOp.isUser.mut {op : Obs.OOp} (hu : op.isUser) : ∃ rop d, op.mut = some (rop, d) := by
  cases op <;> first | exact ⟨_, _, rfl⟩ | exact hu.elim

/-- a user operation while the fire is consumed: the debt is paid, or it is still owed and every held task is
still held -/
theorem user_step_live {o : Obs} (hd : o.Dead) (hI : Inv o.ghost) (op : Obs.OOp) (f : Option Err)
    (hfr : o.FreshOp op) (hu : op.isUser) :
    Inv (o.step op f).1 ∨
      ((o.step op f).1.Dead ∧ Inv (o.step op f).1.ghost ∧ ∀ t, o.Held t → (o.step op f).1.Held t) := by
  obtain ⟨rop, d, hm⟩ := hu.mut
  have hok : TasksOk o.repo.tasks o.clock.now := hI.1
  have hG := Inv_mut hI hm f hfr
  rw [Obs.step_mut hm] at hG ⊢
  by_cases hne : (Repo.step {} o.repo o.clock.now rop).2.isErr = true
  · rw [if_pos hne]
    exact .inr ⟨hd, hI, fun _ h => h⟩
  · rw [if_neg (show ¬(Repo.step {} o.ghost.repo o.ghost.clock.now rop).2.isErr = true from hne)] at hG
    rw [if_neg hne]
    rw [Bool.not_eq_true] at hne
    change Inv (({ o with repo := (Repo.step {} o.repo o.clock.now rop).1 } : Obs).ghost.act (d o.hook) f) at hG
    generalize hr : (Repo.step {} o.repo o.clock.now rop).1 = r at hG ⊢
    rcases ghost_act (o := { o with repo := r }) (ghost_started hI :) hd.1 (d o.hook) f with h | ⟨ha, h⟩
    · exact .inl (h ▸ hG)
    · -- the hook did not re-arm: the debt stays, and what is held stays scheduled
      have hn := Obs.act_noTouch { o with repo := r } ha f
      refine .inr ⟨hn.dead hd, h ▸ hG, fun t ht => ht.transfer hn.cached hn.stale ?_⟩
      intro u hmem hid hsc
      rw [hn.repo]
      cases op <;> cases hm
      · rw [← hr, (add_shape hok hfr hne).1]
        exact ⟨u, List.mem_append_left _ hmem, hid, hsc⟩
      · obtain ⟨g, h1, h2, _⟩ := update_shape hok hne
        rw [← hr, h1]
        refine ⟨g u, List.mem_map_of_mem hmem, ?_⟩
        rcases h2 u hmem with h | ⟨_, _, h⟩ <;> rw [h] <;> exact ⟨hid, hsc⟩
      · refine ⟨u, hr ▸ (Edit.cancel _).keeps {} hmem fun h => ?_, hid, hsc⟩
        -- not re-arming on `Cancel(id)` means the trusted cache names another task; the held one is the cached one
        have hdec := Hook.onCancel_spec (h := o.hook) hI.2.fixed ‹String›
        change o.hook.onCancel _ ≠ _ at ha
        generalize o.hook.onCancel _ = a at hdec ha
        cases hdec with
        | rearm => exact ha rfl
        | keep c hc hst hcid => exact hcid (by rw [← ht.1 c hc hst, ← hid, h])
        | markStale _ _ _ h => exact h
      · exact absurd hu id

/-- every error `def.ErrKind` produces is a repository verdict (`def.IsDefError`) -/
theorem errKind_def {t : Task} {o : ErrKindOption} {e : Err} (h : errKind t o = some e) :
    World.isDefError e = true := by
  unfold errKind at h
  repeat' split at h
  all_goals first
    | (cases h; rfl)
    | cases h

theorem Ent.refusal_cases (o : ErrKindOption) (l : Option Task) :
    Ent.refusal (errKind · o) l = .ok ∨ ∃ e, Ent.refusal (errKind · o) l = .err e ∧ World.isDefError e = true := by
  unfold Ent.refusal
  repeat' split
  · exact .inr ⟨_, rfl, rfl⟩
  · exact .inr ⟨_, rfl, errKind_def ‹_›⟩
  · exact .inl rfl

namespace Edit
variable {now : Time} {op : Op} {id : String} {want : St} {f : Task → Task} {fl : Flags} {r : Repo}

theorem out (he : Edit now op id want f) (fl : Flags) (r : Repo) :
    (Repo.step fl r now op).2 = .ok ∨ ((Repo.step fl r now op).2.isErr = true ∧ (Repo.step fl r now op).1 = r) := by
  obtain ⟨o, ho⟩ := he.step_eq fl r
  rw [ho]
  split
  · exact .inl rfl
  · exact (Ent.refusal_cases o _).imp_right fun ⟨_, h, _⟩ => ⟨congrArg Out.isErr h, rfl⟩

theorem err_def (he : Edit now op id want f) {e : Err} (h : (Repo.step fl r now op).2 = .err e) :
    World.isDefError e = true := by
  obtain ⟨o, ho⟩ := he.step_eq fl r
  rw [ho] at h
  split at h
  · cases h
  · rcases Ent.refusal_cases o (r.lookup id) with h' | ⟨e', h', hd⟩ <;> rw [h'] at h <;> cases h
    exact hd

theorem all (he : Edit now op id want f) {now' : Time} (hok : TasksOk r.tasks now') {P : Task → Prop}
    (hP : ∀ u ∈ r.tasks, P u) (hF : ∀ t, t.state = want → P t → P (f t)) :
    ∀ u' ∈ (Repo.step fl r now op).1.tasks, P u' := by
  obtain ⟨g, h1, h2⟩ := guarded_shape hok id want f
  rw [he.step_fst, h1]
  intro u' hu'
  obtain ⟨u, hu, rfl⟩ := List.mem_map.1 hu'
  rcases h2 u hu with e | ⟨_, hs, e⟩ <;> rw [e]
  · exact hP u hu
  · exact hF u hs (hP u hu)

theorem unscheduled (he : Edit now op id want f) (fl : Flags) {now' : Time} (hok : TasksOk r.tasks now')
    (hf : ∀ t, (f t).scheduledAt = t.scheduledAt ∧ (f t).createdAt = t.createdAt ∧ (f t).state ≠ .scheduled) :
    TasksOk (Repo.step fl r now op).1.tasks now' ∧
      ∀ t ∈ (Repo.step fl r now op).1.tasks, t.state = .scheduled → t ∈ r.tasks := by
  obtain ⟨g, h1, h2, h3⟩ := he.unschedule fl hok hf
  rw [h1]
  refine ⟨h3, fun t' ht' hs' => ?_⟩
  obtain ⟨t, ht, rfl⟩ := List.mem_map.1 ht'
  rcases h2 t ht with e | ⟨_, e⟩
  · exact e.symm ▸ ht
  · exact absurd hs' e

end Edit

namespace Live

/-- the record `MarkAsDone(id, err)` writes -/
def doneRecord (now : Time) (err : Option String) (t : Task) : Task :=
  match err with
  | none => { t with state := .done, doneAt := some (normalize now) }
  | some msg => { t with state := .err, err := msg, doneAt := some (normalize now) }

theorem doneRecord_eq (now : Time) (err : Option String) : doneRecord now err = Ent.setDone now err := rfl

end Live

theorem inv_done {o : Obs} (hI : Inv o) (now : Time) (id : String) (e : Option String) :
    Inv { o with repo := (Repo.step {} o.repo now (.done id e)).1 } := by
  cases hg : Ent.guard o.repo id .dispatched with
  | false => rw [(Edit.done id e).step_fst, hg]; exact hI
  | true =>
    obtain ⟨u, hl, hs⟩ := Ent.guard_eq_true.mp hg
    obtain ⟨g, h1, hg, hok'⟩ := (Edit.done (now := now) id e).unschedule {} hI.1
      fun t => by cases e <;> exact ⟨rfl, rfl, nofun⟩
    rw [show (Repo.step {} o.repo now (.done id e)).1 = ⟨o.repo.tasks.map g⟩ from congrArg Repo.mk h1]
    refine ⟨hok', hI.2.of_repo (getNext_unschedule hg fun hd hn hid => ?_) fun t' ht' hs' => ?_⟩
    · -- the head is scheduled, the task written is dispatched
      have hh := Repo.getNext_isHead hn
      have := hh.scheduled
      rw [hI.1.lookup hl hh.mem hid, hs] at this
      cases this
    · obtain ⟨t, ht, rfl⟩ := List.mem_map.1 ht'
      rcases hg t ht with e | ⟨_, e⟩
      · exact e.symm ▸ ht
      · exact absurd hs' e

theorem done_dispatched {r : Repo} {now : Time} {id : String} {e : Option String} {u' : Task}
    (hu' : u' ∈ (Repo.step {} r now (.done id e)).1.tasks) (hs : u'.state = .dispatched) : u' ∈ r.tasks := by
  rcases (Edit.done id e).mem hu' with h | ⟨u, _, _, rfl⟩
  · exact h
  · cases e <;> cases hs

/-! ## The hook out of sync with the repository (D21)

`MarkAsDispatched` can take effect in the core repository below the observable wrapper and then be reported as
failed (`SAct.markDispatchedCore`): the wrapper returns the error WITHOUT calling its timer hook. From then on the
hook's cache may name a task that is no longer scheduled and the channel / armed deadline no longer answer to the
repository's head: `Inv` is lost. What survives — and what every later hook call, run against the stale cache,
preserves — is `Obs.Loose`: the repository part, the clock discipline, "stopped is silent", and

    an armed deadline is NOT LATER than any scheduled task (and than the trusted cached task),

i.e. the timer may be silent although a task is scheduled (that is the defect), but it is never armed too late.
`StopTimer(); StartTimer()` — which the restart request set by every `DispatchErr` exit forces on the next
`Step` — re-reads the head and turns `Loose` back into `Inv` (`Obs.Loose.inv_stop`, `Obs.Loose.inv_start`). -/

/-- the hook-timer facts that survive a repository write the hook was not told about -/
structure Obs.Loose (o : Obs) : Prop where
  ok : TasksOk o.repo.tasks o.clock.now
  fixed : o.hook.fixed = true
  clk : o.clock.armed.isSome = true → o.clock.pending = false
  stopped : o.hook.started = false →
    o.hook.cached = none ∧ o.hook.stale = false ∧ o.clock.armed = none ∧ o.clock.pending = false ∧
      o.hook.timerReset = false
  early : o.hook.lastErr = none → ∀ d, o.clock.armed = some d →
    (∀ t ∈ o.repo.tasks, t.state = .scheduled → d ≤ t.scheduledAt) ∧
    (∀ c, o.hook.cached = some c → o.hook.stale = false → d ≤ c.scheduledAt)

theorem Inv.loose {o : Obs} (hI : Inv o) : o.Loose := by
  refine ⟨hI.1, hI.2.fixed, hI.2.clk, hI.2.stopped, fun he d ha => ?_⟩
  have hp : o.clock.pending = false := hI.2.clk (by simp [ha])
  have hs : o.hook.started = true :=
    Bool.of_not_eq_false fun hs => nomatch (hI.2.stopped hs).2.2.1.symm.trans ha
  refine ⟨fun t ht hsc => ?_, fun c hc hst => ?_⟩
  · obtain ⟨hd, hn⟩ := Repo.getNext_isSome_of_scheduled ht hsc
    rcases hI.head_timed hs he hn with y | ⟨d', y, hle⟩
    · exact nomatch hp.symm.trans y
    · cases ha.symm.trans y
      exact Int.le_trans hle (Repo.getNext_le_sched hn t ht hsc)
  · rcases (hI.2.live hs he c hc hst).2.2 with y | y
    · exact nomatch hp.symm.trans y
    · cases ha.symm.trans y
      exact Int.le_refl _

theorem Obs.Loose.inv_stop {o : Obs} (h : o.Loose) : Inv o.stopTimer := stopTimer_inv h.fixed h.clk h.ok

theorem Obs.Loose.inv_start {o : Obs} (h : o.Loose) (f : Option Err) : Inv (o.startTimer f) :=
  update_inv' (o := { o with hook := { o.hook with started := true } }) h.fixed h.clk (fun hs => Bool.noConfusion hs)
    h.ok f

theorem Obs.Loose.update {o : Obs} (h : o.Loose) (f : Option Err) : (o.update f).Loose :=
  (update_inv' h.fixed h.clk h.stopped h.ok f).loose

/-- a hook call that did not re-arm (it left the clock alone and at most marked a non-empty cache stale), after a
repository write all of whose scheduled tasks were there before or are not earlier than the armed deadline -/
theorem Obs.Loose.keep {o : Obs} (h : o.Loose) {r : Repo} {hk : Hook}
    (hok : TasksOk r.tasks o.clock.now)
    (hhk : hk = o.hook ∨ (hk = { o.hook with stale := true } ∧ o.hook.cached ≠ none))
    (hsch : ∀ t ∈ r.tasks, t.state = .scheduled → (t ∈ o.repo.tasks) ∨
      (o.hook.lastErr = none → ∀ d, o.clock.armed = some d → d ≤ t.scheduledAt)) :
    Obs.Loose { repo := r, hook := hk, clock := o.clock } := by
  have hearly : o.hook.lastErr = none → ∀ d, o.clock.armed = some d →
      ∀ t ∈ r.tasks, t.state = .scheduled → d ≤ t.scheduledAt := by
    intro he d ha t ht hs
    rcases hsch t ht hs with h1 | h1
    · exact (h.early he d ha).1 t h1 hs
    · exact h1 he d ha
  rcases hhk with rfl | ⟨rfl, hc⟩
  · exact ⟨hok, h.fixed, h.clk, h.stopped, fun he d ha => ⟨hearly he d ha, (h.early he d ha).2⟩⟩
  · refine ⟨hok, h.fixed, h.clk, ?_, fun he d ha => ⟨hearly he d ha, fun c _ hst => by cases hst⟩⟩
    intro hs
    exact absurd (h.stopped hs).1 hc

/-- the core repository marks a task as dispatched (or refuses), the hook is not told (D21) -/
theorem Obs.Loose.coreDispatch {o : Obs} (h : o.Loose) (id : String) :
    Obs.Loose { o with repo := (Repo.step {} o.repo o.clock.now (.dispatch id)).1 } := by
  have ⟨h1, h2⟩ := (Edit.dispatch (now := o.clock.now) id).unscheduled {} h.ok fun t => ⟨rfl, rfl, nofun⟩
  exact h.keep h1 (.inl rfl) (fun t ht hs => .inl (h2 t ht hs))

theorem Obs.Loose.advance {o : Obs} (h : o.Loose) (t : Time) :
    Obs.Loose { o with clock := o.clock.advance t } := by
  have ⟨h1, h2⟩ := Clock.advance_cases o.clock t
  generalize o.clock.advance t = c' at h1 h2
  rcases h2 with ⟨h2, h3⟩ | ⟨h2, h3, h4⟩
  · exact ⟨h.ok.mono h1, h.fixed, by rw [h2, h3]; exact h.clk, by rw [h2, h3]; exact h.stopped,
      by rw [h2]; exact h.early⟩
  · refine ⟨h.ok.mono h1, h.fixed, by simp [h3], ?_, ?_⟩
    · intro a
      have := (h.stopped a).2.2.1
      simp [this] at h2
    · intro _ d ha
      simp only at ha
      rw [h3] at ha; cases ha

/-- Whatever the repaired hook decides keeps `Loose`, after a repository write every scheduled task of which was
there before or is — when the hook does not re-arm, on a trusted cache `c` — not earlier than an old scheduled task
or than `c`. -/
theorem Obs.Loose.act {o : Obs} (h : o.Loose) {r : Repo} (hok : TasksOk r.tasks o.clock.now)
    {K S : Task → Prop} {a : Hook.Act} (hd : o.hook.Decides K S a)
    (hsch : ∀ c, K c ∨ S c → ∀ t ∈ r.tasks, t.state = .scheduled →
      (∃ t0 ∈ o.repo.tasks, t0.state = .scheduled ∧ t0.scheduledAt ≤ t.scheduledAt) ∨
        c.scheduledAt ≤ t.scheduledAt)
    (f : Option Err) : (({ o with repo := r } : Obs).act a f).Loose := by
  have key : ∀ c, o.hook.cached = some c → o.hook.stale = false → K c ∨ S c →
      ∀ t ∈ r.tasks, t.state = .scheduled → t ∈ o.repo.tasks ∨
        (o.hook.lastErr = none → ∀ d, o.clock.armed = some d → d ≤ t.scheduledAt) := by
    intro c hc hst hk t ht hs
    refine .inr fun he d ha => ?_
    rcases hsch c hk t ht hs with ⟨t0, h0, hs0, hle⟩ | hle
    · exact Int.le_trans ((h.early he d ha).1 t0 h0 hs0) hle
    · exact Int.le_trans ((h.early he d ha).2 c hc hst) hle
  cases hd with
  | rearm => exact (update_inv' (o := { o with repo := r }) h.fixed h.clk h.stopped hok f).loose
  | keep c hc hst hk => exact h.keep hok (.inl rfl) (key c hc hst (.inl hk))
  | markStale c hc hst hs => exact h.keep hok (.inr ⟨rfl, by simp [hc]⟩) (key c hc hst (.inr hs))

theorem Obs.Loose.mut_step {o : Obs} (h : o.Loose) {op : Obs.OOp} {rop : Op} {d : Hook → Hook.Act}
    (hm : op.mut = some (rop, d)) (f : Option Err) (hfr : o.FreshOp op) : (o.step op f).1.Loose := by
  rw [Obs.step_mut hm]
  split
  · exact h
  · next hne =>
    rw [Bool.not_eq_true] at hne
    cases op <;> cases hm
    · next id p =>
      have ⟨h1, h2⟩ := add_shape h.ok hfr hne
      refine h.act h2 (Hook.onAdd_spec h.fixed p) ?_ f
      intro c hk t ht hs
      rw [h1] at ht
      rcases List.mem_append.1 ht with ht | ht
      · exact .inl ⟨t, ht, hs, Int.le_refl _⟩
      · -- the new task does not sort before the cached one
        rw [List.mem_singleton] at ht
        subst ht
        have hle := Task.sched_le_of_not_lessHook rfl (hk.resolve_right _root_.id)
        simp only [Hook.addProbe, Param.toTask_scheduledAt, Param.normalize_scheduledAt, getD_map_normalize] at hle ⊢
        exact .inr hle
    · next id p =>
      obtain ⟨g, h1, h2, h3⟩ := update_shape h.ok hne
      refine h.act (h1 ▸ h3) (Hook.onUpdate_spec h.fixed id p) ?_ f
      intro c hk t' ht' hs'
      rw [h1] at ht'
      obtain ⟨t, ht, rfl⟩ := List.mem_map.1 ht'
      rcases h2 t ht with e | ⟨_, hst, e⟩
      · rw [e] at hs' ⊢; exact .inl ⟨t, ht, hs', Int.le_refl _⟩
      · -- the updated task keeps its (normalised) time, or gets the operand's, which the hook compared with `c`
        rw [e, Task.update_scheduledAt, Param.normalize_scheduledAt]
        cases hps : p.scheduledAt with
        | none =>
          exact .inl ⟨t, ht, hst, Int.le_of_eq (normalize_of_mod (h.ok.norm t ht).1).symm⟩
        | some s =>
          right
          simp only [Option.map_some, Option.getD_some, normalize_idem]
          rcases hk with hk | ⟨_, hlh⟩
          · split at hk
            · rw [hk.2] at hps; cases hps
            · exact Int.le_of_lt (hk.1 s hps)
          · have hle := Task.sched_le_of_not_lessHook rfl hlh
            simpa only [Hook.updateProbe, Param.toTask_scheduledAt, or_some_getD, Param.normalize_scheduledAt, hps,
              Option.map_some, Option.getD_some, normalize_idem] using hle
    · have ⟨h1, h2⟩ := (Edit.cancel (now := o.clock.now) ‹String›).unscheduled {} h.ok fun t => ⟨rfl, rfl, nofun⟩
      exact h.act h1 (Hook.onCancel_spec h.fixed _) (fun c hk t ht hs => .inl ⟨t, h2 t ht hs, hs, Int.le_refl _⟩) f
    · have ⟨h1, h2⟩ := (Edit.dispatch (now := o.clock.now) ‹String›).unscheduled {} h.ok fun t => ⟨rfl, rfl, nofun⟩
      rcases Hook.onDispatch_spec h.fixed ‹String› with ⟨_, hk⟩ | hdec
      · rw [show (fun x : Hook => x.onDispatch _) o.hook = _ from hk]
        exact h.keep h1 (.inl rfl) (fun t ht hs => .inl (h2 t ht hs))
      · exact h.act h1 hdec (fun c hk t ht hs => .inl ⟨t, h2 t ht hs, hs, Int.le_refl _⟩) f

theorem loose_of_ghost {o : Obs} (hd : o.Dead) (hI : Inv o.ghost) : o.Loose := by
  have hs := ghost_started hI
  refine ⟨hI.1, hI.2.fixed, ?_, ?_, ?_⟩
  · intro h; rw [hd.1] at h; cases h
  · intro h; rw [hs] at h; cases h
  · intro _ d ha; rw [hd.1] at ha; cases ha

theorem inv_stopTimer {o : Obs} (h : Inv o ∨ (o.Dead ∧ Inv o.ghost)) : Inv o.stopTimer :=
  (h.elim Inv.loose fun ⟨hd, h⟩ => loose_of_ghost hd h).inv_stop

theorem inv_startTimer {o : Obs} (h : Inv o ∨ (o.Dead ∧ Inv o.ghost)) (f : Option Err) :
    Inv (o.startTimer f) :=
  (h.elim Inv.loose fun ⟨hd, h⟩ => loose_of_ghost hd h).inv_start f

end Gk

namespace Gk.Live
open Gk

/-- users only add (fresh ids), update and cancel -/
def World.UserOk (w : World) : Act → Prop
  | .user (.add id _) _ => ∀ t ∈ w.obs.repo.tasks, t.id ≠ id
  | .user (.update _ _) _ => True
  | .user (.cancel _) _ => True
  | .user _ _ => False
  | _ => True

/-- The driver's side of the contract: a `DispatchErr` that is not a repository verdict
(`def.IsDefError`) is handed to `Retry`, it is not dropped by calling `Step` again. -/
def World.DriverOk (w : World) : Act → Prop
  | .sched .beginStep =>
    match w.ret with
    | .dispatchErr _ e => World.isDefError e = true
    | _ => True
  | _ => True

theorem World.DriverOk.beginStep {w : World} (h : World.DriverOk w (.sched .beginStep)) {t : Task}
    {e : Err} (hr : w.ret = .dispatchErr t e) : World.isDefError e = true := by
  simp only [World.DriverOk, hr] at h
  exact h

instance World.decUserOk (w : World) (a : Act) : Decidable (World.UserOk w a) := by
  unfold World.UserOk; split <;> infer_instance

instance World.decDriverOk (w : World) (a : Act) : Decidable (World.DriverOk w a) := by
  unfold World.DriverOk
  split
  · split <;> infer_instance
  · infer_instance

def World.Script (w : World) : List Act → Prop
  | [] => True
  | a :: rest => World.UserOk w a ∧ World.DriverOk w a ∧ World.Script (w.step a) rest

def World.UserScript (w : World) : List Act → Prop
  | [] => True
  | a :: rest => World.UserOk w a ∧ World.UserScript (w.step a) rest

instance World.decUserScript :
    (w : World) → (acts : List Act) → Decidable (World.UserScript w acts)
  | _, [] => isTrue trivial
  | w, a :: rest =>
    have := World.decUserScript (w.step a) rest
    inferInstanceAs (Decidable (World.UserOk w a ∧ World.UserScript (w.step a) rest))

instance World.decScript : (w : World) → (acts : List Act) → Decidable (World.Script w acts)
  | _, [] => isTrue trivial
  | w, a :: rest =>
    have := World.decScript (w.step a) rest
    inferInstanceAs (Decidable (World.UserOk w a ∧ World.DriverOk w a ∧ World.Script (w.step a) rest))

def World.init (t0 : Time) : World := { obs := { clock := { now := t0 } } }

/-- the driver has started the timer once -/
def World.init' (t0 : Time) : World :=
  { World.init t0 with obs := (World.init t0).obs.startTimer none }

/-- what the driver's next `Step` / `Retry` will react to -/
def World.WakeUp (w : World) : Prop :=
  w.obs.clock.pending = true
  ∨ (∃ d, w.obs.clock.armed = some d)
  ∨ w.lastTask.isSome
  ∨ w.getNextErr = true
  ∨ w.obs.hook.lastErr.isSome
  ∨ w.obs.hook.started = false
  ∨ (∃ t e, w.ret = .dispatchErr t e)
  ∨ (∃ e, w.ret = .timerUpdateError e)

instance World.decWakeUp (w : World) : Decidable (World.WakeUp w) :=
  have : Decidable (∃ d, w.obs.clock.armed = some d) := decidable_of_iff _ Option.isSome_iff_exists
  have : Decidable (∃ t e, w.ret = .dispatchErr t e) :=
    match w.ret with
    | .dispatchErr t e => isTrue ⟨t, e, rfl⟩
    | .zero | .timerUpdateError _ | .awaitingNext | .nextTask .. | .dispatched _ | .taskDone .. =>
      isFalse fun ⟨_, _, h⟩ => nomatch h
  have : Decidable (∃ e, w.ret = .timerUpdateError e) :=
    match w.ret with
    | .timerUpdateError e => isTrue ⟨e, rfl⟩
    | .zero | .dispatchErr .. | .awaitingNext | .nextTask .. | .dispatched _ | .taskDone .. =>
      isFalse fun ⟨_, h⟩ => nomatch h
  by unfold World.WakeUp; infer_instance

/-- program counters at which `lastTask` can be set -/
def quietPc : Pc → Bool
  | .idle | .s_lastErr0 | .s_stop | .s_start | .s_lastErr1 | .r_stop | .r_start | .r_lastErr => true
  | _ => false

def quietRet : SS → Bool
  | .dispatchErr _ _ | .taskDone _ _ _ => false
  | _ => true

/-- program counters at which `getNextErr` can be set: the quiet ones and — since `dispatchTask` sets it when
it gives up (D21) — the path of `Retry(DispatchErr)` through `dispatchTask`, which never clears it -/
def gnePc : Pc → Bool
  | .r_getById _ | .d_wait _ _ | .d_mark _ _ | .d_get _ => true
  | p => quietPc p

/-- `getNextErr` is never set together with a `TaskDone` state -/
def gneRet : SS → Bool
  | .taskDone _ _ _ => false
  | _ => true

/-- a `DispatchErr` state between two calls, and its re-read in `Retry`, come with the restart request:
`dispatchTask` set it when it gave up (D21) and nothing on the way clears it -/
def deOk : Pc → SS → Bool → Bool
  | .idle, .dispatchErr _ _, g => g
  | .r_getById _, _, g => g
  | _, _, _ => true

/-- control-flow fact: an announced task exists only between calls and in the restart prologue, and never
together with a retryable dispatch / done state; a remembered restart request (`getNextErr`) exists only there
and along `Retry(DispatchErr)`, never inside `select`, the timer branch or a `MarkAsDone`; a `DispatchErr`
awaiting `Retry` / being retried comes with the restart request -/
def StickyOk (w : World) : Prop :=
  (w.lastTask.isSome = true → quietPc w.pc = true ∧ quietRet w.ret = true) ∧
  (w.getNextErr = true → gnePc w.pc = true ∧ gneRet w.ret = true) ∧
  deOk w.pc w.ret w.getNextErr = true

def LastDebt (w : World) : Prop := ∃ t, w.lastTask = some t ∧ w.obs.Held t

/-- a debt that the next `Step` pays in its prologue: the announced task, or the restart request — the latter
counts only with a state that `Retry` does not hand back to `dispatchTask` / `MarkAsDone` (with a `DispatchErr`
the debt is `DErr`) -/
def Sticky (w : World) : Prop := LastDebt w ∨ (w.getNextErr = true ∧ quietRet w.ret = true)

def DErr (w : World) : Prop :=
  ∃ t e, w.ret = .dispatchErr t e ∧ World.isDefError e = false ∧ w.obs.Held t

/-- The scheduler owes a wake-up for the fire it has consumed: it has not re-armed yet, but its control
state guarantees that it will (or that the driver's next call will). -/
def OwesHeld (w : World) : Prop :=
  match w.pc with
  | .idle => Sticky w ∨ DErr w
  | .s_lastErr0 => LastDebt w
  | .s_stop | .s_start | .r_stop | .r_start | .s_getNext => True
  | .s_nextSched t | .d_wait t false | .d_mark t _ | .r_getById t => w.obs.Held t
  | _ => False

theorem OwesHeld.at_idle {w : World} (hpc : w.pc = .idle) : OwesHeld w ↔ Sticky w ∨ DErr w := by
  unfold OwesHeld
  rw [hpc]

/-- (D21) program counters at which a set restart request (`getNextErr`) stays set until `StopTimer()` runs:
between two calls, at the `StopTimer()` of `Step`'s restart prologue / of `Retry(TimerUpdateError)`, and along
`Retry(DispatchErr)` through `dispatchTask` (which never clears it). NOT `s_lastErr0` / `s_lastErr1`, where
`LastTimerUpdateError() == nil` clears the request. -/
def restartPc : Pc → Bool
  | .idle | .s_stop | .r_stop | .r_getById _ | .d_wait _ _ | .d_mark _ _ | .d_get _ => true
  | _ => false

/-- (D21) a restart of the timer is pending: the request is set and the control state guarantees that the next
thing that happens to the timer is `StopTimer(); StartTimer()` — at the latest in the prologue of the next `Step` -/
def Restart (w : World) : Prop := w.getNextErr = true ∧ restartPc w.pc = true

/-- The scheduler owes a wake-up: for the fire it has consumed (`OwesHeld`), or because a restart of the timer is
pending (`Restart`, D21). -/
def Owes (w : World) : Prop := OwesHeld w ∨ Restart w

/-- The inductive invariant: the hook-timer invariant holds; or the fire is consumed (nothing armed,
nothing pending), the hook-timer invariant holds for the state with the fire put back, and the
scheduler owes a wake-up; or (D21) the repository has been written behind the hook's back — the hook-timer state
is only `Loose` (never armed too late, but possibly silent) — and a restart of the timer is pending. -/
structure LiveInv (w : World) : Prop where
  fix : w.fix = {}
  sticky : StickyOk w
  hook : Inv w.obs ∨ (w.obs.Dead ∧ Inv w.obs.ghost ∧ OwesHeld w) ∨ (w.obs.Loose ∧ Restart w)

theorem LiveInv.retryMarks {w : World} (h : LiveInv w) : w.fix.retryMarks = true := by rw [h.fix]

theorem LiveInv.loose {w : World} (h : LiveInv w) : w.obs.Loose := by
  rcases h.hook with h | ⟨hd, h, _⟩ | ⟨h, _⟩
  · exact h.loose
  · exact loose_of_ghost hd h
  · exact h

/-- between two calls a `DispatchErr` state comes with the restart request (D21) -/
theorem LiveInv.dispatchErr_restart {w : World} (h : LiveInv w) (hpc : w.pc = .idle) {t : Task} {e : Err}
    (hr : w.ret = .dispatchErr t e) : w.getNextErr = true := by
  have := h.sticky.2.2
  rw [hpc, hr] at this
  exact this

theorem LiveInv.tasksOk {w : World} (h : LiveInv w) : TasksOk w.obs.repo.tasks w.obs.clock.now :=
  h.loose.ok

theorem LiveInv.inv_stop {w : World} (h : LiveInv w) : Inv w.obs.stopTimer := h.loose.inv_stop

theorem LiveInv.inv_start {w : World} (h : LiveInv w) (f : Option Err) : Inv (w.obs.startTimer f) :=
  h.loose.inv_start f

theorem LiveInv.weak {w : World} (h : LiveInv w) (hr : ¬ Restart w) :
    Inv w.obs ∨ (w.obs.Dead ∧ Inv w.obs.ghost) := by
  rcases h.hook with h | ⟨a, b, _⟩ | ⟨_, c⟩
  · exact Or.inl h
  · exact Or.inr ⟨a, b⟩
  · exact absurd c hr

/-- The default proof of `Restart w → Restart w'` for the moves of `LiveInv.of_sched`. The request (`getNextErr`) is
cleared only where `LastTimerUpdateError() == nil` is read (`s_lastErr0`, `s_lastErr1`), and those program counters
are not in `restartPc`. So one of these holds, tried in this order: the move leaves the request alone and ends at
a program counter of `restartPc`; it is a `DispatchErr` exit, which sets the request (D21) and ends at `idle`; it
changes nothing; it starts outside `restartPc` (the leaf's hypothesis on `w.pc` refutes `Restart w`); it is taken
only without a request (as `step`). -/
local macro "restart_tac" : tactic =>
  `(tactic| (intro hr; first
    | exact ⟨hr.1, rfl⟩ | exact ⟨rfl, rfl⟩ | exact hr
    | (exfalso; have h2 := hr.2; simp [restartPc, *] at h2; done)
    | (exfalso; have h1 := hr.1; simp [*] at h1; done)))

/-- same observable, the debt bookkeeping moves -/
theorem LiveInv.move {w w' : World} (h : LiveInv w) (hfix : w'.fix = w.fix) (hobs : w'.obs = w.obs)
    (hs : StickyOk w') (ho : Inv w.obs.ghost → OwesHeld w → OwesHeld w')
    (hr : Restart w → Restart w' := by restart_tac) :
    LiveInv w' := by
  refine ⟨hfix.trans h.fix, hs, ?_⟩
  rw [hobs]
  rcases h.hook with hI | ⟨hd, hI, hO⟩ | ⟨hl, hR⟩
  · exact Or.inl hI
  · exact Or.inr (Or.inl ⟨hd, hI, ho hI hO⟩)
  · exact Or.inr (Or.inr ⟨hl, hr hR⟩)

theorem LiveInv.inv_of_not {w : World} (h : LiveInv w) (h1 : ¬ OwesHeld w) (h2 : ¬ Restart w) : Inv w.obs := by
  rcases h.hook with hI | ⟨_, _, ho⟩ | ⟨_, hr⟩
  · exact hI
  · exact absurd ho h1
  · exact absurd hr h2

theorem held_lookup {o : Obs} (hok : TasksOk o.repo.tasks o.clock.now) {t : Task} (hh : o.Held t) :
    ∃ cur, o.repo.lookup t.id = some cur ∧ cur.state = .scheduled := by
  obtain ⟨_, u, hu, hid, hs⟩ := hh
  exact ⟨u, hid ▸ hok.lookup_mem hu, hs⟩

/-! ### `StickyOk` along `World.Sched`

`StickyOk` reads only `lastTask`, `getNextErr`, `pc`, `ret`: along the scheduler's transitions it is bookkeeping. -/

theorem StickyOk.lastTask_none {w : World} (h : StickyOk w) {p : Pc} (hpc : w.pc = p)
    (hq : quietPc p = false) : w.lastTask = none := by
  cases hl : w.lastTask with
  | none => rfl
  | some t => have := (h.1 (by rw [hl]; rfl)).1; rw [hpc, hq] at this; cases this

theorem StickyOk.getNextErr_false {w : World} (h : StickyOk w) {p : Pc} (hpc : w.pc = p)
    (hq : gnePc p = false) : w.getNextErr = false := by
  cases hg : w.getNextErr with
  | false => rfl
  | true => have := (h.2.1 hg).1; rw [hpc, hq] at this; cases this

theorem StickyOk.of_clear {w : World} (hl : w.lastTask = none) (hg : w.getNextErr = false)
    (hd : deOk w.pc w.ret false = true) : StickyOk w :=
  ⟨fun h => (by rw [hl] at h; cases h), fun h => (by rw [hg] at h; cases h), hg ▸ hd⟩

/-- a move of the program counter alone, to one at which whatever may be set at the old one may be set -/
theorem StickyOk.jump {w w' : World} (h : StickyOk w) {p : Pc} (hpc : w.pc = p)
    (hl : w'.lastTask = w.lastTask) (hg : w'.getNextErr = w.getNextErr) (hr : w'.ret = w.ret)
    (hq : quietPc p = true → quietPc w'.pc = true) (hq' : gnePc p = true → gnePc w'.pc = true)
    (hd : ∀ s g, deOk w'.pc s g = true) : StickyOk w' := by
  rw [StickyOk, hl, hg, hr]
  rw [StickyOk, hpc] at h
  exact ⟨fun a => ⟨hq (h.1 a).1, (h.1 a).2⟩, fun a => ⟨hq' (h.2.1 a).1, (h.2.1 a).2⟩, hd _ _⟩

/-- a return from a program counter at which no task can be announced -/
theorem StickyOk.giveUp {w w' : World} (h : StickyOk w) {p : Pc} (hpc : w.pc = p) (hq : quietPc p = false)
    (hl : w'.lastTask = w.lastTask) (h2 : gnePc w'.pc = true ∧ gneRet w'.ret = true)
    (h3 : deOk w'.pc w'.ret w'.getNextErr = true) : StickyOk w' :=
  ⟨fun a => (by rw [hl, h.lastTask_none hpc hq] at a; cases a), fun _ => h2, h3⟩

theorem StickyOk.sched {w w' : World} {a : SAct} (hS : StickyOk w) (hs : w.Sched a w') :
    StickyOk w' := by
  cases hs with
  | stuck | cancelCtx => exact hS
  | stepRestart hpc | step hpc | lastErr0Err hpc | stop hpc | start _ hpc | selTimer hpc | selResult hpc
  | getNextSome hpc | waitRetry hpc | waitMark hpc | markOk hpc | retryTimer hpc | rStop hpc | rStart _ hpc
  | refetchNone hpc | refetch hpc =>
    exact hS.jump hpc rfl rfl rfl (fun h => by first | rfl | cases h) (fun h => by first | rfl | cases h)
      (fun _ _ => rfl)
  | lastErr0Task | lastErr1Task => exact .of_clear rfl rfl rfl
  | lastErr0Select _ _ hl | lastErr1Select _ _ hl => exact .of_clear hl rfl rfl
  | lastErr1Err | selCtx | run | retryZero | rLastErrErr | rLastErrOk | getNextFault | getNextNone | changed
  | announce =>
    -- the new control state is fine whatever the flags
    exact ⟨fun _ => ⟨rfl, rfl⟩, fun _ => ⟨rfl, rfl⟩, rfl⟩
  | selCancelled hpc | doneBefore hpc | doneCtx hpc | done hpc | redoneBefore hpc | redoneCtx hpc
  | redoneErr hpc | redone hpc =>
    exact .of_clear (hS.lastTask_none hpc rfl) (hS.getNextErr_false hpc rfl) rfl
  | noWorker hpc | markBefore _ hpc | markCtx _ hpc | markErr hpc | coreCtx hpc | core hpc | getFault hpc
  | getCtx hpc | getNone hpc =>
    exact hS.giveUp hpc rfl rfl ⟨rfl, rfl⟩ rfl
  | retryDispatch hpc hr =>
    -- a `DispatchErr` between two calls comes with the restart request, and is handed on with it
    have h3 := hS.2.2
    rw [hpc, hr] at h3
    have h1 := hS.1
    rw [hr] at h1
    exact ⟨fun a => (nomatch (h1 a).2), fun _ => ⟨rfl, hr ▸ rfl⟩, h3⟩
  | retryDone hpc hr =>
    have h1 := hS.1
    have h2 := hS.2.1
    rw [hr] at h1 h2
    exact ⟨fun a => (nomatch (h1 a).2), fun a => (nomatch (h2 a).2), rfl⟩
  | refetchFault hpc | refetchCtx hpc =>
    have h3 := hS.2.2
    rw [hpc] at h3
    exact hS.giveUp hpc rfl rfl ⟨rfl, rfl⟩ h3

/-- the task whose wake-up a program counter owes -/
def owedAt : Pc → Option Task
  | .s_nextSched t | .d_wait t false | .d_mark t _ | .r_getById t => some t
  | _ => none

theorem OwesHeld.held {w : World} {p : Pc} {t : Task} (ho : OwesHeld w) (hpc : w.pc = p)
    (hp : owedAt p = some t) : w.obs.Held t := by
  unfold OwesHeld at ho
  rw [hpc] at ho
  unfold owedAt at hp
  split at hp <;> cases hp <;> exact ho

/-- `LiveInv` along the scheduler's transitions. Nothing is asked of the driver: since `dispatchTask` sets the
restart request when it gives up (D21), a `Step` issued over an un-retried `DispatchErr` restarts the timer. -/
theorem LiveInv.of_sched {w w' : World} {a : SAct} (h : LiveInv w) (hs : w.Sched a w') :
    LiveInv w' := by
  have hS := h.sticky
  have hS' := hS.sched hs
  have hfix := h.fix
  have hq : Sticky w → quietRet w.ret = true := by
    rintro (⟨t, h1, _⟩ | hg)
    · exact (hS.1 (by rw [h1]; rfl)).2
    · exact hg.2
  cases hs with
  | stuck | cancelCtx => exact ⟨hfix, hS, h.hook⟩
  | stepRestart | lastErr0Err | retryTimer => exact h.move rfl rfl hS' (fun _ _ => trivial)
  | step hpc hg =>
    -- a `DispatchErr` comes with the restart request (D21): this branch is not taken after one
    refine h.move rfl rfl hS' (fun _ ho => ?_)
    rcases (OwesHeld.at_idle hpc).1 ho with (hl | hg') | ⟨t, e, h1, _, _⟩
    · exact hl
    · exact absurd hg'.1 hg
    · exact absurd (h.dispatchErr_restart hpc h1) hg
  | lastErr0Task hpc _ hl =>
    refine h.move rfl rfl hS' (fun _ ho => ?_)
    obtain ⟨t', h1, h2⟩ : LastDebt w := by simpa only [OwesHeld, hpc] using ho
    rw [hl] at h1; cases h1
    exact h2
  | lastErr0Select hpc _ hl =>
    refine h.move rfl rfl hS' (fun _ ho => ?_)
    obtain ⟨t, h1, _⟩ : LastDebt w := by simpa only [OwesHeld, hpc] using ho
    rw [hl] at h1; cases h1
  | stop | rStop => exact ⟨hfix, hS', .inl h.inv_stop⟩
  | start | rStart => exact ⟨hfix, hS', .inl (h.inv_start _)⟩
  | selTimer hpc hp =>
    have hI : Inv w.obs := h.inv_of_not (by simp only [OwesHeld, hpc, not_false_eq_true])
      (by simp [Restart, restartPc, hpc])
    have ⟨hd, hg⟩ := ghost_of_consume hI hp
    rw [← hg] at hI
    exact ⟨hfix, hS', Or.inr (Or.inl ⟨hd, hI, trivial⟩)⟩
  | getNextFault | getNextNone =>
    exact h.move rfl rfl hS' (fun _ _ => Or.inl (Or.inr ⟨rfl, rfl⟩))
  | getNextSome _ _ hn =>
    exact h.move rfl rfl hS' (fun hI _ => held_of_head hI hn)
  | changed =>
    exact h.move rfl rfl hS' (fun _ _ => Or.inl (Or.inr ⟨by rw [hfix], rfl⟩))
  | announce hpc =>
    exact h.move rfl rfl hS'
      (fun _ ho => Or.inl (Or.inl ⟨_, rfl, ho.held hpc rfl⟩))
  | @noWorker t retry hpc =>
    cases retry with
    | true => exact h.move rfl rfl hS' (fun _ ho => absurd ho (by simp only [OwesHeld, hpc, not_false_eq_true]))
    | false =>
      exact h.move rfl rfl hS'
        (fun _ ho => Or.inr ⟨t, .ctx, rfl, rfl, ho.held hpc rfl⟩)
  | waitMark hpc =>
    exact h.move rfl rfl hS' (fun _ ho => ho.held hpc rfl)
  | doneBefore hpc | doneCtx hpc | redoneBefore hpc | redoneCtx hpc =>
    exact ⟨hfix, hS', .inl (h.inv_of_not (by simp only [OwesHeld, hpc, not_false_eq_true])
      (by simp [Restart, restartPc, hpc]))⟩
  | done hpc | redoneErr hpc | redone hpc =>
    exact ⟨hfix, hS', .inl (inv_done (h.inv_of_not (by simp only [OwesHeld, hpc, not_false_eq_true])
      (by simp [Restart, restartPc, hpc])) _ _ _)⟩
  | markBefore _ hpc | markCtx _ hpc | coreCtx hpc | refetchFault hpc | refetchCtx hpc =>
    exact h.move rfl rfl hS' (fun _ ho => Or.inr ⟨_, _, rfl, rfl, ho.held hpc rfl⟩)
  | markErr hpc | markOk hpc =>
    -- the hook is called: it re-arms (`Inv`), or — with a restart pending (D21) — the state stays `Loose`
    rcases h.hook with hI | ⟨hd, hI, ho⟩ | ⟨hl, hr⟩
    · exact ⟨hfix, hS', .inl (Inv_step hI _ _ trivial)⟩
    · exact ⟨hfix, hS', .inl (dispatch_pays hd hI (ho.held hpc rfl) _)⟩
    · exact ⟨hfix, hS', Or.inr (Or.inr ⟨hl.mut_step (op := .dispatch _) rfl _ trivial, by first | rfl | exact hr.1, rfl⟩)⟩
  | core =>
    -- D21: the core repository applies (or refuses) the transition, the hook is not told: whatever the
    -- hook-timer state was, it is `Loose` now, and the `DispatchErr` exit sets the restart request
    exact ⟨hfix, hS', Or.inr (Or.inr ⟨h.loose.coreDispatch _, rfl, rfl⟩)⟩
  | retryDispatch hpc hr =>
    refine h.move rfl rfl hS' (fun _ ho => ?_)
    rcases (OwesHeld.at_idle hpc).1 ho with hs | ⟨t', e', h1, _, h3⟩
    · have := hq hs
      rw [hr] at this; cases this
    · rw [hr] at h1; cases h1
      exact h3
  | retryDone hpc hr =>
    -- the restart request is never set together with a `TaskDone` state
    refine h.move rfl rfl hS' (fun _ ho => ?_) (fun hR => ?_)
    · rcases (OwesHeld.at_idle hpc).1 ho with hs | ⟨t', e', h1, _, h3⟩
      · have := hq hs
        rw [hr] at this; cases this
      · rw [hr] at h1; cases h1
    · have := (hS.2.1 hR.1).2
      rw [hr] at this; cases this
  | retryZero hpc h1 h2 h3 =>
    refine h.move rfl rfl hS' (fun _ ho => ?_)
    rcases (OwesHeld.at_idle hpc).1 ho with (hs | hs) | ⟨t', e', h1', _, _⟩
    · exact Or.inl (Or.inl hs)
    · exact Or.inl (Or.inr ⟨hs.1, rfl⟩)
    · exact absurd h1' (h2 t' e')
  | refetchNone hpc _ _ hl =>
    refine h.move rfl rfl hS' (fun _ ho => ?_)
    obtain ⟨cur, h1, _⟩ := held_lookup h.tasksOk (ho.held hpc rfl)
    rw [hl] at h1; cases h1
  | refetch hpc _ _ hl =>
    refine h.move rfl rfl hS' (fun _ ho => ?_)
    have hh := ho.held hpc rfl
    obtain ⟨cur', h1, h2⟩ := held_lookup h.tasksOk hh
    rw [hl] at h1; cases h1
    simp [OwesHeld, hfix, h2]
    exact hh
  | _ =>
    -- the other transitions leave a program counter at which nothing is owed
    exact h.move rfl rfl hS' (fun _ ho => absurd ho (by simp only [OwesHeld, *, not_false_eq_true]))

theorem OwesHeld.transfer {w : World} {o' : Obs} (hh : ∀ t, w.obs.Held t → o'.Held t) (ho : OwesHeld w) :
    OwesHeld { w with obs := o' } := by
  have hL : LastDebt w → LastDebt { w with obs := o' } := fun ⟨t, h1, h2⟩ => ⟨t, h1, hh t h2⟩
  revert ho
  unfold OwesHeld
  dsimp only
  cases w.pc with
  | idle => exact .imp (.imp_left hL) fun ⟨t, e, h1, h2, h3⟩ => ⟨t, e, h1, h2, hh t h3⟩
  | s_lastErr0 => exact hL
  | d_wait t b => cases b <;> first | exact hh t | exact id
  | s_nextSched t | d_mark t _ | r_getById t => exact hh t
  | _ => exact id

theorem userOk_cases {w : World} {op : Obs.OOp} {hf : Option Err} (hu : World.UserOk w (.user op hf)) :
    op.isUser ∧ w.obs.FreshOp op := by
  cases op <;> first | exact ⟨trivial, hu⟩ | exact ⟨trivial, trivial⟩ | exact absurd hu id

/-- `LiveInv` is inductive over every action; nothing is asked of the driver (`LiveInv.of_sched`). -/
theorem LiveInv.step_free {w : World} (h : LiveInv w) (a : Act) (hu : World.UserOk w a) :
    LiveInv (w.step a) := by
  cases a with
  | sched a => exact h.of_sched (World.sched_spec w a)
  | user op hf =>
    have ⟨hu1, hu2⟩ := userOk_cases hu
    refine ⟨h.fix, h.sticky, ?_⟩
    rcases h.hook with hI | ⟨hd, hI, ho⟩ | ⟨hl, hr⟩
    · exact Or.inl (Inv_step hI op hf hu2)
    · rcases user_step_live hd hI op hf hu2 hu1 with h1 | ⟨h1, h2, h3⟩
      · exact Or.inl h1
      · exact Or.inr (Or.inl ⟨h1, h2, ho.transfer h3⟩)
    · -- D21: the hook runs against its stale cache; it re-arms or not, the state stays `Loose`
      exact Or.inr (Or.inr ⟨hu1.mut.elim fun _ ⟨_, hm⟩ => hl.mut_step hm hf hu2, hr⟩)
  | advance t =>
    refine ⟨h.fix, h.sticky, ?_⟩
    rcases h.hook with hI | ⟨hd, hI, ho⟩ | ⟨hl, hr⟩
    · exact Or.inl (Inv_step hI (.advance t) none trivial)
    · have ⟨h1, h2⟩ := ghost_advance hd t
      exact Or.inr (Or.inl ⟨h1, h2 ▸ Inv_step hI (.advance t) none trivial, ho.transfer fun _ hh => hh⟩)
    · exact Or.inr (Or.inr ⟨hl.advance t, hr⟩)
  | complete id o =>
    simp only [World.step]
    split
    · exact ⟨h.fix, h.sticky, h.hook⟩
    · exact ⟨h.fix, h.sticky, h.hook⟩

theorem LiveInv.step {w : World} (h : LiveInv w) (a : Act) (hu : World.UserOk w a)
    (_hdrv : World.DriverOk w a) : LiveInv (w.step a) := h.step_free a hu

theorem LiveInv.init (t0 : Time) : LiveInv (World.init' t0) :=
  ⟨rfl, .of_clear rfl rfl rfl, Or.inl (inv_startTimer (Or.inl (Inv_init t0)) none)⟩

theorem LiveInv.run_free {w : World} (h : LiveInv w) (acts : List Act) (hs : World.UserScript w acts) :
    LiveInv (w.run acts) := by
  induction acts generalizing w with
  | nil => exact h
  | cons a rest ih => exact ih (h.step_free a hs.1) hs.2

theorem LiveInv.run {w : World} (h : LiveInv w) (acts : List Act) (hs : World.Script w acts) :
    LiveInv (w.run acts) := by
  induction acts generalizing w with
  | nil => exact h
  | cons a rest ih => exact ih (h.step a hs.1 hs.2.1) hs.2.2

end Gk.Live

/-! ## C20: dispatched tasks are never stranded silently -/

namespace Gk

theorem mut_step_mem {o : Obs} {op : Obs.OOp} {rop : Op} {d : Hook → Hook.Act} (hm : op.mut = some (rop, d))
    (f : Option Err) {u : Task} (h : u ∈ (o.step op f).1.repo.tasks) :
    u ∈ o.repo.tasks ∨
      (∃ id p, rop = .add id p ∧ u = p.normalize.toTask id o.clock.now ∧ u.isValid = true) ∨
      ∃ id want g, Edit o.clock.now rop id want g ∧ u ∈ (Repo.step {} o.repo o.clock.now rop).1.tasks := by
  rw [Obs.step_mut hm] at h
  split at h
  · exact .inl h
  · rw [Obs.act_repo] at h
    cases op <;> cases hm
    · simp only [Repo.step] at h
      split at h
      · exact .inl h
      · next hv =>
        rcases List.mem_append.1 h with h | h
        · exact .inl h
        · cases List.mem_singleton.1 h
          exact .inr (.inl ⟨_, _, rfl, rfl, by simpa using hv⟩)
    · by_cases hv : ‹Param›.validForUpdate = true
      · exact .inr (.inr ⟨_, _, _, .update _ _ hv, h⟩)
      · simp only [Repo.step, hv] at h
        exact .inl h
    · exact .inr (.inr ⟨_, _, _, .cancel _, h⟩)
    · exact .inr (.inr ⟨_, _, _, .dispatch _, h⟩)

theorem user_step_dispatched {o : Obs} (op : Obs.OOp) (f : Option Err) (hu : op.isUser) :
    ∀ u' ∈ (o.step op f).1.repo.tasks, u'.state = .dispatched →
      ∃ u ∈ o.repo.tasks, u.state = .dispatched ∧ u.id = u'.id := by
  intro u' hu' hs
  obtain ⟨rop, d, hm⟩ := hu.mut
  rcases mut_step_mem hm f hu' with h | ⟨_, _, _, rfl, _⟩ | ⟨_, _, _, he, h⟩
  · exact ⟨u', h, hs, rfl⟩
  · cases hs
  · rcases he.mem h with h | ⟨u, h1, _, rfl⟩
    · exact ⟨u', h, hs, rfl⟩
    · cases he with
      | update => exact ⟨u, h1, hs, rfl⟩
      | cancel => cases hs
      | dispatch => cases op <;> cases hm; exact absurd hu id
      | done _ e => cases e <;> cases hs

end Gk

namespace Gk.Live
open Gk

/-- the work function of task `id` has been started -/
def Started (w : World) (id : String) : Prop := ∃ e ∈ w.log, e.id = id

/-- the scheduler (or the state it returned to the driver) still holds the dispatched task `id` -/
def HeldDisp (w : World) (id : String) : Prop :=
  match w.pc with
  | .d_get t | .d_wait t true | .r_getById t => t.id = id
  | .idle => ∃ t e, w.ret = .dispatchErr t e ∧ World.isDefError e = false ∧ t.id = id
  | _ => False

def DispInv (w : World) : Prop :=
  ∀ u ∈ w.obs.repo.tasks, u.state = .dispatched → Started w u.id ∨ HeldDisp w u.id

theorem HeldDisp.at_idle {w : World} {id : String} (hh : HeldDisp w id) (hpc : w.pc = .idle) :
    ∃ t e, w.ret = .dispatchErr t e ∧ World.isDefError e = false ∧ t.id = id := by
  simpa only [HeldDisp, hpc] using hh

theorem DispInv.idle {w : World} (h : DispInv w) (hpc : w.pc = .idle) {u : Task} (hu : u ∈ w.obs.repo.tasks)
    (hs : u.state = .dispatched) (hlog : ∀ x ∈ w.log, x.id ≠ u.id) :
    ∃ t e, w.ret = .dispatchErr t e ∧ World.isDefError e = false ∧ t.id = u.id := by
  rcases h u hu hs with ⟨x, hx, hid⟩ | hh
  · exact absurd hid (hlog x hx)
  · exact hh.at_idle hpc

theorem DispInv.move {w w' : World} (h : DispInv w)
    (hrepo : ∀ u' ∈ w'.obs.repo.tasks, u'.state = .dispatched →
      ∃ u ∈ w.obs.repo.tasks, u.state = .dispatched ∧ u.id = u'.id)
    (hlog : ∀ id, Started w id → Started w' id)
    (hh : ∀ u ∈ w.obs.repo.tasks, u.state = .dispatched → HeldDisp w u.id →
      HeldDisp w' u.id ∨ Started w' u.id) : DispInv w' := by
  intro u' hu' hs'
  obtain ⟨u, hu, hs, hid⟩ := hrepo u' hu' hs'
  rw [← hid]
  rcases h u hu hs with h1 | h1
  · exact Or.inl (hlog _ h1)
  · rcases hh u hu hs h1 with h2 | h2
    · exact Or.inr h2
    · exact Or.inl h2

theorem startTimer_repo (o : Obs) (f : Option Err) : (o.startTimer f).repo = o.repo := o.startTimer_repo f

theorem mutate_out (r : Repo) (id : String) (F : Task → Task) :
    (Repo.mutateScheduled r id F).2 = .ok ∨
      ((Repo.mutateScheduled r id F).2.isErr = true ∧ (Repo.mutateScheduled r id F).1 = r) := by
  rw [mutateScheduled_eq]
  split
  · exact .inl rfl
  · exact (Ent.refusal_cases {} _).imp_right fun ⟨_, h, _⟩ => ⟨congrArg Out.isErr h, rfl⟩

theorem dispatch_step_out (o : Obs) (id : String) (f : Option Err) :
    (o.step (.dispatch id) f).2 = (Repo.step {} o.repo o.clock.now (.dispatch id)).2 := by
  rw [Obs.step_mut (op := .dispatch id) rfl]
  split <;> rfl

theorem dispatch_err_same (o : Obs) (id : String) (f : Option Err)
    (h : (o.step (.dispatch id) f).2.isErr = true) : (o.step (.dispatch id) f).1 = o := by
  rw [Obs.step_mut (op := .dispatch id) rfl, if_pos (dispatch_step_out o id f ▸ h)]

theorem dispatch_step_repo_core (o : Obs) (id : String) (f : Option Err) :
    (o.step (.dispatch id) f).1.repo = (Repo.step {} o.repo o.clock.now (.dispatch id)).1 := by
  rw [Obs.step_mut (op := .dispatch id) rfl]
  split
  · next h =>
    rcases (Edit.dispatch id).out {} o.repo with h1 | ⟨_, h1⟩
    · rw [h1] at h; cases h
    · exact h1.symm
  · exact Obs.act_repo _ _ _

theorem dispatch_step_cases (o : Obs) (id : String) (f : Option Err) :
    ((o.step (.dispatch id) f).1 = o ∧ (o.step (.dispatch id) f).2.isErr = true) ∨
      ((o.step (.dispatch id) f).2 = .ok ∧
        ∀ u' ∈ (o.step (.dispatch id) f).1.repo.tasks, u' ∈ o.repo.tasks ∨ u'.id = id) := by
  rw [dispatch_step_out, dispatch_step_repo_core]
  rcases (Edit.dispatch id).out {} o.repo with h | ⟨h, _⟩
  · exact .inr ⟨h, fun u' hu' => ((Edit.dispatch id).mem hu').imp_right fun ⟨u, _, h2, e⟩ => e ▸ h2⟩
  · exact .inl ⟨dispatch_err_same o id f (dispatch_step_out o id f ▸ h), h⟩

theorem dispatch_err_def (o : Obs) (id : String) (f : Option Err) {e : Err}
    (h : (o.step (.dispatch id) f).2 = .err e) : World.isDefError e = true :=
  (Edit.dispatch id).err_def (fl := {}) (dispatch_step_out o id f ▸ h)

theorem dispatch_keeps (o : Obs) (id : String) (f : Option Err) {u : Task} (hu : u ∈ o.repo.tasks)
    (hid : u.id ≠ id) : u ∈ (o.step (.dispatch id) f).1.repo.tasks := by
  rw [dispatch_step_repo_core]
  exact (Edit.dispatch id).keeps _ hu hid

theorem dispatch_step_refused (o : Obs) (id : String) (f : Option Err) {u : Task} {e' : Err}
    (hl : o.repo.lookup id = some u) (hs : u.state ≠ .scheduled) (hk : errKindMutate u = some e') :
    o.step (.dispatch id) f = (o, .err e') := by
  have hg : Ent.guard o.repo id .scheduled = false := Ent.guard_eq_false.mpr fun t h => by cases hl.symm.trans h; exact hs
  simp [Obs.step, Repo.step, mutateScheduled_eq, hg, hl, Ent.refusal, hk, Out.isErr]

theorem dispatch_step_missing (o : Obs) (id : String) (f : Option Err)
    (hl : o.repo.lookup id = none) : o.step (.dispatch id) f = (o, .err .idNotFound) := by
  simp [Obs.step, Repo.step, mutateScheduled_eq, Ent.guard, hl, Ent.refusal, Out.isErr]

/-- the only writes of the scheduler: `MarkAsDone` and `MarkAsDispatched` -/
theorem _root_.Gk.World.Sched.repo_cases {w w' : World} {a : SAct} (hs : w.Sched a w') :
    w'.obs.repo = w.obs.repo ∨
    (∃ id err, w'.obs.repo = (Repo.step {} w.obs.repo w.obs.clock.now (.done id err)).1) ∨
    (∃ id, w'.obs.repo = (Repo.step {} w.obs.repo w.obs.clock.now (.dispatch id)).1) := by
  cases hs with
  | done | redoneErr | redone => exact .inr (.inl ⟨_, _, rfl⟩)
  | markErr | markOk => exact .inr (.inr ⟨_, dispatch_step_repo_core _ _ _⟩)
  | core => exact .inr (.inr ⟨_, rfl⟩)
  | start | rStart => exact .inl (startTimer_repo _ _)
  | _ => exact .inl rfl

theorem DispInv.of_sched {w w' : World} {a : SAct} (hL : LiveInv w) (h : DispInv w)
    (hs : w.Sched a w') (hdrv : World.DriverOk w (.sched a)) : DispInv w' := by
  have hfix := hL.fix
  have hok := hL.tasksOk
  have same : ∀ u' ∈ w.obs.repo.tasks, u'.state = .dispatched →
      ∃ u ∈ w.obs.repo.tasks, u.state = .dispatched ∧ u.id = u'.id :=
    fun u hu hs => ⟨u, hu, hs, rfl⟩
  have keep : ∀ id, Started w id → Started w id := fun _ hh => hh
  -- at `d_mark` nothing is held: every dispatched task was started
  have hold : ∀ {t r}, w.pc = .d_mark t r → ∀ u ∈ w.obs.repo.tasks, u.state = .dispatched → Started w u.id :=
    fun hpc u hu hs => (h u hu hs).resolve_right (by simp only [HeldDisp, hpc, not_false_eq_true])
  cases hs with
  | stuck | cancelCtx => exact h
  | start _ hpc | rStart _ hpc =>
    exact h.move (fun u hu hs => ⟨u, by rw [← startTimer_repo]; exact hu, hs, rfl⟩) keep
      (fun _ _ _ hh => absurd hh (by simp only [HeldDisp, hpc, not_false_eq_true]))
  | done hpc | redoneErr hpc | redone hpc =>
    exact h.move (fun u hu hs => ⟨u, done_dispatched hu hs, hs, rfl⟩) keep
      (fun _ _ _ hh => absurd hh (by simp only [HeldDisp, hpc, not_false_eq_true]))
  | step hpc | stepRestart hpc =>
    refine h.move same keep (fun _ _ _ hh => ?_)
    obtain ⟨t, e, h1, h2, _⟩ := hh.at_idle hpc
    have := hdrv.beginStep h1
    rw [h2] at this; cases this
  | retryTimer hpc hr | retryDone hpc hr =>
    refine h.move same keep (fun _ _ _ hh => ?_)
    obtain ⟨t, e, h1, _⟩ := hh.at_idle hpc
    rw [hr] at h1; cases h1
  | retryDispatch hpc hr =>
    refine h.move same keep (fun _ _ _ hh => Or.inl ?_)
    obtain ⟨t, e, h1, _, h3⟩ := hh.at_idle hpc
    rw [hr] at h1; cases h1
    exact h3
  | retryZero hpc _ h2 =>
    refine h.move same keep (fun _ _ _ hh => ?_)
    obtain ⟨t, e, h1, _⟩ := hh.at_idle hpc
    exact absurd h1 (h2 t e)
  | @noWorker t retry hpc =>
    refine h.move same keep (fun _ _ _ hh => Or.inl ?_)
    cases retry with
    | false => simp only [HeldDisp, hpc] at hh
    | true => exact ⟨t, .ctx, rfl, rfl, by simpa only [HeldDisp, hpc] using hh⟩
  | waitRetry hpc => exact h.move same keep (fun _ _ _ hh => Or.inl (by simpa only [HeldDisp, hpc] using hh))
  | getFault hpc | getCtx hpc | refetchFault hpc | refetchCtx hpc =>
    exact h.move same keep (fun _ _ _ hh => Or.inl ⟨_, _, rfl, rfl, by simpa only [HeldDisp, hpc] using hh⟩)
  | getNone hpc _ _ hl | refetchNone hpc _ _ hl =>
    refine h.move same keep (fun u hu _ hh => ?_)
    simp only [HeldDisp, hpc] at hh
    rw [hh] at hl
    exact absurd hl (mem_lookup hu)
  | run hpc _ _ hl =>
    exact h.move same (fun id ⟨e, he, hid⟩ => ⟨e, List.mem_append_left _ he, hid⟩)
      (fun u _ _ hh => Or.inr ⟨_, List.mem_append_right _ (List.mem_singleton.2 rfl),
        by simpa only [HeldDisp, hpc] using hh⟩)
  | refetch hpc _ _ hl =>
    refine h.move same keep (fun u hu hs hh => Or.inl ?_)
    simp only [HeldDisp, hpc] at hh
    have := hok.lookup hl hu hh.symm
    subst this
    simp [HeldDisp, hfix, hs, hh]
  | @markErr t retry f hf' e hpc _ _ he =>
    intro u hu hs
    rcases dispatch_step_cases w.obs t.id hf' with ⟨h1, h2⟩ | ⟨h1, h2⟩
    · exact Or.inl (hold hpc u (h1 ▸ hu) hs)
    · exact (h2 u hu).elim (fun h3 => .inl (hold hpc u h3 hs))
        fun h3 => .inr ⟨t, e, rfl, World.faultErr_ok (h1 ▸ he) ▸ rfl, h3.symm⟩
  | @markOk t retry f hf' hpc =>
    intro u hu hs
    rcases dispatch_step_cases w.obs t.id hf' with ⟨h1, h2⟩ | ⟨h1, h2⟩
    · exact Or.inl (hold hpc u (h1 ▸ hu) hs)
    · exact (h2 u hu).elim (fun h3 => .inl (hold hpc u h3 hs)) fun h3 => .inr h3.symm
  | @core t retry hpc hc =>
    -- D21: the core marks `t` (or refuses); the returned `DispatchErr` keeps `t` for `Retry`
    intro u hu hs
    have hw := Edit.dispatch (now := w.obs.clock.now) t.id
    rcases hw.out {} w.obs.repo with h1 | ⟨_, h2⟩
    · rcases hw.mem hu with h3 | ⟨u0, _, h3, rfl⟩
      · exact Or.inl (hold hpc u h3 hs)
      · -- the core answered `ok`: the error reported is the injected one
        refine Or.inr ⟨t, _, rfl, ?_, h3.symm⟩
        show World.isDefError (match (Repo.step {} w.obs.repo w.obs.clock.now (.dispatch t.id)).2 with
          | .err e => e | _ => .other) = false
        rw [h1]
        rfl
    · exact Or.inl (hold hpc u (h2 ▸ hu) hs)
  | _ =>
    -- the other transitions leave a program counter at which nothing is held, and write nothing
    exact h.move same keep (fun _ _ _ hh => absurd hh (by simp only [HeldDisp, *, not_false_eq_true]))

theorem DispInv.step {w : World} (hL : LiveInv w) (h : DispInv w) (a : Act)
    (hu : World.UserOk w a) (hdrv : World.DriverOk w a) : DispInv (w.step a) := by
  cases a with
  | sched a => exact h.of_sched hL (World.sched_spec w a) hdrv
  | user op hf =>
    have ⟨hu1, _⟩ := userOk_cases hu
    exact h.move (user_step_dispatched op hf hu1) (fun _ x => x) (fun _ _ _ hh => Or.inl hh)
  | advance t =>
    exact h.move (fun u hu hs => ⟨u, hu, hs, rfl⟩) (fun _ x => x) (fun _ _ _ hh => Or.inl hh)
  | complete id o =>
    simp only [World.step]
    split
    · exact h.move (fun u hu hs => ⟨u, hu, hs, rfl⟩) (fun _ x => x) (fun _ _ _ hh => Or.inl hh)
    · exact h.move (fun u hu hs => ⟨u, hu, hs, rfl⟩) (fun _ x => x) (fun _ _ _ hh => Or.inl hh)

theorem DispInv.init (t0 : Time) : DispInv (World.init' t0) := by
  intro u hu
  have : (World.init' t0).obs.repo = {} := startTimer_repo _ none
  rw [this] at hu
  cases hu

theorem DispInv.run {w : World} (hL : LiveInv w) (h : DispInv w) (acts : List Act)
    (hs : World.Script w acts) : DispInv (w.run acts) := by
  induction acts generalizing w with
  | nil => exact h
  | cons a rest ih =>
    exact ih (hL.step a hs.1 hs.2.1) (h.step hL a hs.1 hs.2.1) hs.2.2

end Gk.Live
