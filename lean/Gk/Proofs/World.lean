/-
Safety invariants of the scheduler automaton `Gk.World` (C03, C04, C06, C20). What a step does to each part of
the state (repository and clock, log, bookkeeping lists, held task, outcome on its way to the repository) is read
off `WP.WStep` once, in the `*_wstep` lemmas; each invariant is then preserved because of the few of these facts
it depends on: the control invariant `Inv` (at most once, marked before entry, completion bookkeeping), the ghost
invariant `GInv` (every started task was marked by this run), the timing invariant `TInv` (C03 under "no
postponement of the held task") and `QInv` (outcomes recorded at quiescence).
-/
import Gk.World
import Gk.Proofs.Repo
import Gk.Proofs.WStep
namespace Gk

/-- users only add / update / cancel and start / stop the repository's timer (the scheduler is the
only caller of MarkAsDispatched / MarkAsDone); ids given to add are fresh.

`start` / `stop` (`Repository.StartTimer` / `StopTimer`, called by the application, see
`example/main.go`) are allowed because from `World.init` the timer is not started and without a
started timer no task is ever announced: without them every theorem below would be vacuous. -/
def World.UserOk (w : World) : Act → Prop
  | .user (.add id _) _ => ∀ t ∈ w.obs.repo.tasks, t.id ≠ id
  | .user (.update ..) _ | .user (.cancel _) _ | .user .start _ | .user .stop _ => True
  | .user _ _ => False
  | _ => True

instance World.decUserOk (w : World) (a : Act) : Decidable (w.UserOk a) := by
  cases a with
  | user op hf => cases op <;> unfold World.UserOk <;> infer_instance
  | sched a => exact isTrue trivial
  | advance t => exact isTrue trivial
  | complete id o => exact isTrue trivial

/-- every action is `UserOk` in the state where it happens -/
def World.Script (w : World) : List Act → Prop
  | [] => True
  | a :: rest => w.UserOk a ∧ World.Script (w.step a) rest

instance World.decScript : (w : World) → (acts : List Act) → Decidable (w.Script acts)
  | _, [] => isTrue trivial
  | w, a :: rest =>
    have := World.decScript (w.step a) rest
    inferInstanceAs (Decidable (w.UserOk a ∧ World.Script (w.step a) rest))

/-- all fixes on, `hook.fixed = true`, empty repository, timer not started -/
def World.init (t0 : Time) : World := { obs := { clock := { now := t0 } } }

/-- the copy of a task the scheduler currently holds between reading it (`GetNext` / `GetById`) and
marking it dispatched: carried by the program counter, remembered in `lastTask`, or returned in a
`DispatchErr` state that awaits `Retry` -/
def World.held (w : World) : Option Task :=
  match w.pc with
  | .s_nextSched t | .d_wait t _ | .d_mark t _ | .d_get t | .r_getById t => some t
  | .idle =>
    match w.lastTask, w.ret with
    | some t, _ => some t
    | none, .dispatchErr t _ => some t
    | none, _ => none
  | _ => w.lastTask

def World.heldId (w : World) : Option String := w.held.map (·.id)

/-- the action changes the scheduled time of the task whose copy the scheduler holds
(the trigger of the open finding D3i) -/
def Act.postponesHeld (w : World) : Act → Bool
  | .user (.update id p) _ => w.heldId == some id && p.scheduledAt.isSome
  | _ => false

/-- no action of the script changes the scheduled time of the held task, in the state where it happens -/
def World.NoPostpone (w : World) : List Act → Prop
  | [] => True
  | a :: rest => a.postponesHeld w = false ∧ World.NoPostpone (w.step a) rest

instance World.decNoPostpone : (w : World) → (acts : List Act) → Decidable (w.NoPostpone acts)
  | _, [] => isTrue trivial
  | w, a :: rest =>
    have := World.decNoPostpone (w.step a) rest
    inferInstanceAs (Decidable (a.postponesHeld w = false ∧ World.NoPostpone (w.step a) rest))

theorem World.run_append (w : World) (xs ys : List Act) : w.run (xs ++ ys) = (w.run xs).run ys :=
  List.foldl_append ..

theorem World.run_cons (w : World) (a : Act) (rest : List Act) :
    w.run (a :: rest) = (w.step a).run rest := rfl

theorem World.script_append {w : World} {xs ys : List Act} :
    w.Script (xs ++ ys) ↔ w.Script xs ∧ (w.run xs).Script ys := by
  induction xs generalizing w with
  | nil => simp [World.Script, World.run]
  | cons a rest ih =>
    simp only [List.cons_append, World.Script, World.run_cons, ih, and_assoc]

theorem World.noPostpone_append {w : World} {xs ys : List Act} :
    w.NoPostpone (xs ++ ys) ↔ w.NoPostpone xs ∧ (w.run xs).NoPostpone ys := by
  induction xs generalizing w with
  | nil => simp [World.NoPostpone, World.run]
  | cons a rest ih =>
    simp only [List.cons_append, World.NoPostpone, World.run_cons, ih, and_assoc]

/-- the driver's retry discipline, per action: a `Step` is not begun while the last returned state is
a `TaskDone` whose `MarkAsDone` failed (it must be handed to `Retry`), and the non-error state
`TaskDone(id, context.Canceled, _)` is not handed to `Retry` -/
def World.retryOk (w : World) : Act → Bool
  | .sched .beginStep =>
    w.pc != .idle || (match w.ret with | .taskDone _ _ (some _) => false | _ => true)
  | .sched .beginRetry =>
    w.pc != .idle || (match w.ret with | .taskDone _ .ctxCanceled _ => false | _ => true)
  | _ => true

def World.RetryDiscipline (w : World) : List Act → Prop
  | [] => True
  | a :: rest => w.retryOk a = true ∧ World.RetryDiscipline (w.step a) rest

instance World.decRetryDiscipline : (w : World) → (acts : List Act) → Decidable (w.RetryDiscipline acts)
  | _, [] => isTrue trivial
  | w, a :: rest =>
    have := World.decRetryDiscipline (w.step a) rest
    inferInstanceAs (Decidable (w.retryOk a = true ∧ World.RetryDiscipline (w.step a) rest))

namespace WP

theorem lookup_replace (r : Repo) (i : String) (f : Task → Task) (hf : ∀ t, (f t).id = t.id)
    (id : String) :
    (r.replace i f).lookup id = if id = i then (r.lookup i).map f else r.lookup id :=
  Repo.lookup_replace r i hf id

/-- a state in which the work function has been (or is about to be) started -/
def started (s : St) : Prop := s = .dispatched ∨ s = .done ∨ s = .err

def doneTask (now : Time) (e : Option String) (t : Task) : Task :=
  match e with
  | none => { t with state := .done, doneAt := some (normalize now) }
  | some msg => { t with state := .err, err := msg, doneAt := some (normalize now) }

theorem done_spec' {r : Repo} (h : r.WF) (now : Time) (id : String) (e : Option String) :
    Repo.step {} r now (.done id e) =
      match r.lookup id with
      | none => (r, .err .idNotFound)
      | some t =>
        match t.state with
        | .dispatched => (r.replace id (doneTask now e), .ok)
        | .scheduled => (r, .err .notDispatched)
        | .cancelled => (r, .err .alreadyCancelled)
        | .done | .err => (r, .err .alreadyDone) :=
  step_done_spec h now id e

theorem obs_step (o : Obs) (op : Obs.OOp) (hf : Option Err) {rop : Op} {d : Hook → Hook.Act}
    (h : op.mut = some (rop, d)) :
    (o.step op hf).1.repo = (Repo.step {} o.repo o.clock.now rop).1 ∧
    (o.step op hf).2 = (Repo.step {} o.repo o.clock.now rop).2 := by
  rw [Obs.step_mut h]
  split
  · next he => exact ⟨(step_err_fst he).symm, rfl⟩
  · exact ⟨Obs.act_repo .., rfl⟩

theorem fresh_of_userOk {w : World} {id : String} {p : Param} {hf : Option Err}
    (hu : w.UserOk (.user (.add id p) hf)) : (Op.add id p).fresh w.obs.repo := by
  intro h
  obtain ⟨t, ht, he⟩ := List.mem_map.mp h
  exact hu t ht he

/-- the repository writes of the scheduler world: the three user mutations, and the scheduler's
`MarkAsDispatched` (through the wrapper, or in the core only: D21) and `MarkAsDone` -/
inductive Writes (w : World) : Act → Op → Prop
  | add {id p hf} (h : (Op.add id p).fresh w.obs.repo) : Writes w (.user (.add id p) hf) (.add id p)
  | update {id p hf} : Writes w (.user (.update id p) hf) (.update id p)
  | cancel {id hf} : Writes w (.user (.cancel id) hf) (.cancel id)
  | mark {t r f hf} (hpc : w.pc = .d_mark t r) (hnb : f ≠ .before) (hcd : w.ctxDone = false) :
      Writes w (.sched (.markDispatched f hf)) (.dispatch t.id)
  | markCore {t r} (hpc : w.pc = .d_mark t r) (hcd : w.ctxDone = false) :
      Writes w (.sched .markDispatchedCore) (.dispatch t.id)
  | done {id o f} (hpc : AtMD w id o) :
      Writes w (.sched (.markDone f)) (.done id (World.outcomeErr o))

theorem Writes.plain {w : World} {a : Act} {op : Op} (h : Writes w a op) : op.isLifecycle = true := by
  cases h <;> rfl

theorem Writes.fresh {w : World} {a : Act} {op : Op} (h : Writes w a op) : op.fresh w.obs.repo := by
  cases h <;> first | assumption | trivial

theorem repo_wstep {w w' : World} {a : Act} (hs : WStep w a w') (hu : w.UserOk a) :
    w.obs.clock.now ≤ w'.obs.clock.now ∧
    (w'.obs.repo = w.obs.repo ∨
      ∃ op, Writes w a op ∧ w'.obs.repo = (Repo.step {} w.obs.repo w.obs.clock.now op).1) := by
  cases hs with
  | user op hf =>
    refine ⟨step_now_mono _ op hf, ?_⟩
    cases op with
    | add id p => exact .inr ⟨_, .add (fresh_of_userOk hu), (obs_step _ _ hf rfl).1⟩
    | update id p => exact .inr ⟨_, .update, (obs_step _ _ hf rfl).1⟩
    | cancel id => exact .inr ⟨_, .cancel, (obs_step _ _ hf rfl).1⟩
    | start => exact .inl (Obs.startTimer_repo _ _)
    | stop => exact .inl rfl
    | dispatch | advance | fire => exact hu.elim
  | advance t => exact ⟨Clock.advance_now _ _, .inl rfl⟩
  | quiet a o' p g ho hn => exact ⟨Int.le_of_eq hn.symm, .inl ho⟩
  | markDone f id o s hpc => exact ⟨Int.le_refl _, .inr ⟨_, .done hpc, rfl⟩⟩
  | markErr f hf t r e hpc hnb hcd | markOk f hf t r hpc hnb hcd =>
    exact ⟨step_now_mono _ _ hf, .inr ⟨_, .mark hpc hnb hcd, (obs_step _ _ hf rfl).1⟩⟩
  | markCore t r e hpc hcd => exact ⟨Int.le_refl _, .inr ⟨_, .markCore hpc hcd, rfl⟩⟩
  | _ => exact ⟨Int.le_refl _, .inl rfl⟩

theorem keep_wstep {w w' : World} {a : Act} (hs : WStep w a w') (hu : w.UserOk a) {id : String} {cur : Task}
    (hl : w.obs.repo.lookup id = some cur) (hs' : cur.state ≠ .scheduled)
    (hno : cur.state = .dispatched → ∀ o, ¬ AtMD w id o) : w'.obs.repo.lookup id = some cur := by
  rcases (repo_wstep hs hu).2 with h | ⟨op, hw, h⟩ <;> rw [h]
  · exact hl
  · refine keep_ne {} _ _ op hw.plain hl hs' fun hd e he => ?_
    subst he
    cases hw with
    | done hpc => exact hno hd _ hpc

theorem log_mono_run (w : World) (acts : List Act) : ∀ e ∈ w.log, e ∈ (w.run acts).log := by
  induction acts generalizing w with
  | nil => exact fun e he => he
  | cons a rest ih => exact fun e he => ih _ e (log_mono_wstep (step_spec w a) e he)

/-! ## Counting ids in the lists of running / completed / reported work -/

def cnt {α : Type} (l : List (String × α)) (x : String) : Nat := (l.map (·.1)).count x

theorem cnt_nil {α : Type} (x : String) : cnt ([] : List (String × α)) x = 0 := rfl

theorem cnt_append_one {α : Type} (l : List (String × α)) (id : String) (o : α) (x : String) :
    cnt (l ++ [(id, o)]) x = cnt l x + if x = id then 1 else 0 := by
  simp only [cnt, List.map_append, List.count_append, List.map_cons, List.map_nil, List.count_singleton,
    beq_iff_eq, eq_comm (a := id)]

theorem cnt_filter {α : Type} (l : List (String × α)) (id : String) (x : String) :
    cnt (l.filter (·.1 != id)) x = if x = id then 0 else cnt l x := by
  have : (l.filter (·.1 != id)).map (·.1) = (l.map (·.1)).filter (· != id) := by
    rw [List.filter_map]; rfl
  unfold cnt
  rw [this]
  split
  · exact List.count_eq_zero.mpr fun h => by simp_all
  · exact List.count_filter (by simpa using ‹¬ x = id›)

theorem cnt_pos_of_mem {α : Type} {l : List (String × α)} {id : String} {o : α} (h : (id, o) ∈ l) :
    0 < cnt l id := by
  unfold cnt
  exact List.count_pos_iff.mpr (List.mem_map.mpr ⟨(id, o), h, rfl⟩)

theorem cnt_pos_of_find {α : Type} {l : List (String × α)} {id : String} {y : String × α}
    (h : l.find? (·.1 == id) = some y) : 1 ≤ cnt l id := by
  have h2 := List.find?_some h
  simp only [beq_iff_eq] at h2
  exact h2 ▸ cnt_pos_of_mem (List.mem_of_find?_eq_some h)

theorem cnt_pos_mem {α : Type} {l : List (String × α)} {id : String} (h : 0 < cnt l id) :
    ∃ o, (id, o) ∈ l := by
  unfold cnt at h
  obtain ⟨p, hp, he⟩ := List.mem_map.mp (List.count_pos_iff.mp h)
  exact ⟨p.2, by rw [← he]; exact hp⟩

/-- the task with this id is stored and its work function has not been started -/
def HeldOk (r : Repo) (log : List RunEntry) (id : String) : Prop :=
  (∃ cur, r.lookup id = some cur) ∧ id ∉ log.map (·.id)

structure Inv (w : World) : Prop where
  fix : w.fix = {}
  wf : w.obs.repo.WF
  pcHeld : ∀ t, heldPc w.pc = some t → HeldOk w.obs.repo w.log t.id
  lastHeld : ∀ t, w.lastTask = some t →
    HeldOk w.obs.repo w.log t.id ∧ mayRemember w.pc = true ∧ isDispatchErr w.ret = false
  retHeld : ∀ t e, w.pc = .idle → w.ret = .dispatchErr t e → HeldOk w.obs.repo w.log t.id
  marked : ∀ t, (w.pc = .d_get t ∨ w.pc = .d_wait t true) →
    ∃ cur, w.obs.repo.lookup t.id = some cur ∧ cur.state = .dispatched
  logged : ∀ e ∈ w.log, e.task.state = .dispatched ∧ e.task.id = e.id ∧
    ∃ t, w.obs.repo.lookup e.id = some t ∧ started t.state
  nodup : (w.log.map (·.id)).Nodup
  counts : ∀ x, cnt w.running x + cnt w.completed x + cnt w.reported x ≤ 1 ∧
    (x ∉ w.log.map (·.id) → cnt w.running x + cnt w.completed x + cnt w.reported x = 0)

theorem Inv.last_none {w : World} (hI : Inv w) (h : mayRemember w.pc = false) : w.lastTask = none := by
  cases hl : w.lastTask with
  | none => rfl
  | some t => have := (hI.lastHeld t hl).2.1; rw [h] at this; cases this

def FrameP (r r' : Repo) : Prop :=
  ∀ id cur, r.lookup id = some cur → ∃ cur', r'.lookup id = some cur' ∧ (started cur.state → started cur'.state)

theorem FrameP.refl (r : Repo) : FrameP r r := fun _ cur h => ⟨cur, h, id⟩

theorem FrameP.of_step (r : Repo) (now : Time) (op : Op) (hp : op.isLifecycle = true) :
    FrameP r (Repo.step {} r now op).1 := by
  intro id cur hl
  obtain ⟨cur', hl', hlat⟩ := Ent.lookup_step_state hl now hp
  refine ⟨cur', hl', fun hst => ?_⟩
  rcases hlat (by rcases hst with h | h | h <;> rw [h] <;> decide) with e | ⟨-, e⟩
  · rwa [e]
  · exact .inr e

theorem HeldOk.frame {r r' : Repo} {log : List RunEntry} {id : String}
    (h : HeldOk r log id) (hf : FrameP r r') : HeldOk r' log id := by
  obtain ⟨⟨cur, hc⟩, hn⟩ := h
  obtain ⟨cur', h1, _⟩ := hf id cur hc
  exact ⟨⟨cur', h1⟩, hn⟩

theorem dispatch_ok {r : Repo} (h : r.WF) (now : Time) (id : String)
    (hok : (Repo.step {} r now (.dispatch id)).2.isErr = false) :
    ∃ t0, r.lookup id = some t0 ∧ t0.state = .scheduled := by
  simp only [Repo.step] at hok
  rw [mutateScheduled_spec h] at hok
  cases hl : r.lookup id with
  | none => simp [hl, Out.isErr] at hok
  | some t0 =>
    refine ⟨t0, rfl, ?_⟩
    cases hs : t0.state <;> simp [hl, hs, Out.isErr] at hok
    rfl

theorem held_of_pc {w : World} {t : Task} (h : heldPc w.pc = some t) : w.held = some t := by
  unfold World.held
  cases hp : w.pc <;> rw [hp] at h <;> simp [heldPc] at h <;> simp [h]

theorem held_of_last {w : World} {t : Task} (hm : mayRemember w.pc = true) (h : w.lastTask = some t) :
    w.held = some t := by
  unfold World.held
  cases hp : w.pc <;> rw [hp] at hm <;> simp [mayRemember] at hm <;> simp [h]

theorem held_of_ret {w : World} {t : Task} {e : Err} (hn : w.lastTask = none) (hpc : w.pc = .idle)
    (hr : w.ret = .dispatchErr t e) : w.held = some t := by
  unfold World.held
  simp [hpc, hn, hr]

theorem last_none_of_ret {w : World}
    (hC : ∀ t, w.lastTask = some t → mayRemember w.pc = true ∧ isDispatchErr w.ret = false)
    {t : Task} {e : Err} (hr : w.ret = .dispatchErr t e) : w.lastTask = none := by
  cases hl : w.lastTask with
  | none => rfl
  | some t' => have := (hC t' hl).2; rw [hr] at this; cases this

theorem held_cases {w : World} {t : Task} (h : w.held = some t) :
    heldPc w.pc = some t ∨ w.lastTask = some t ∨ (w.pc = .idle ∧ ∃ e, w.ret = .dispatchErr t e) := by
  unfold World.held at h
  cases hp : w.pc <;> rw [hp] at h <;> dsimp only at h
  case idle =>
    split at h
    · exact .inr (.inl (by simp_all))
    · cases h; exact .inr (.inr ⟨rfl, _, by assumption⟩)
    · cases h
  all_goals first | exact .inl h | exact .inr (.inl h)

theorem Inv.held {w : World} (hI : Inv w) {t : Task} (h : w.held = some t) :
    HeldOk w.obs.repo w.log t.id := by
  rcases held_cases h with h | h | ⟨hp, e, hr⟩
  · exact hI.pcHeld t h
  · exact (hI.lastHeld t h).1
  · exact hI.retHeld t e hp hr

theorem held_eq_last {w : World} (hp : heldPc w.pc = none) (hr : w.pc = .idle → isDispatchErr w.ret = false) :
    w.held = w.lastTask := by
  unfold World.held
  cases h : w.pc <;> rw [h] at hp hr <;> try cases hp
  case idle =>
    have := hr rfl
    cases w.lastTask <;> cases hr' : w.ret <;> rw [hr'] at this <;> first | rfl | cases this
  all_goals rfl

/-- How the held task moves: it is carried along (and has passed the due check when it leaves
`s_nextSched`), or it has just been read by `GetNext`. -/
theorem held_wstep {w w' : World} {a : Act} (hs : WStep w a w') (hI : Inv w) {t : Task}
    (h : w'.held = some t) :
    (w.held = some t ∧ (w.pc = .s_nextSched t → w'.pc = .s_nextSched t ∨ t.scheduledAt ≤ w.obs.clock.now)) ∨
    (w.obs.repo.getNext = some t ∧ w'.pc = .s_nextSched t ∧ w'.obs = w.obs) := by
  have last : w.lastTask = some t → w.held = some t ∧
      (w.pc = .s_nextSched t → w'.pc = .s_nextSched t ∨ t.scheduledAt ≤ w.obs.clock.now) := fun hl =>
    ⟨held_of_last (hI.lastHeld t hl).2.1 hl, fun hp => by have := (hI.lastHeld t hl).2.1; rw [hp] at this; cases this⟩
  cases hs with
  | stuck | cancelCtx | user | advance | complete => exact .inl ⟨h, .inl⟩
  | begin a p hpc hp | quiet a o' p g ho hn hfrom hp =>
    exact .inl (last (h.symm.trans (held_eq_last (bare_held hp) (absurd · (bare_ne_idle hp)))).symm)
  | retryDone => exact .inl (last (h.symm.trans (held_eq_last rfl nofun)).symm)
  | finDone | retryNoop => exact .inl (last (h.symm.trans (held_eq_last rfl fun _ => rfl)).symm)
  | prologue a t0 hl => cases h; exact .inl (last hl)
  | fin a s lt g hlt hfrom hs =>
    have := (h.symm.trans (held_eq_last rfl fun _ => plainRet_derr hs)).symm
    rcases hlt with rfl | rfl
    · exact .inl (last this)
    · cases this
  | res id o x p s hpc hfind hps =>
    have hn := hI.last_none (by rw [hpc]; rfl)
    rcases hps with ⟨rfl, rfl, _⟩ | ⟨rfl, _, _⟩ <;> simp only [World.held, hn] at h <;> cases h
  | getNext t0 hpc hg => cases h; exact .inr ⟨hg, rfl, rfl⟩
  | announce t0 hpc hdue =>
    cases h
    exact .inl ⟨held_of_pc (by rw [hpc]; rfl), fun _ => .inr (hdue (by rw [hI.fix]))⟩
  | markDone f id o s hpc hs =>
    refine .inl (last (h.symm.trans (held_eq_last rfl fun _ => ?_)).symm)
    rcases hs with rfl | ⟨e, rfl⟩ <;> rfl
  | derr a t0 e g hpc hns =>
    simp only [World.held, hI.last_none (held_mr hpc)] at h
    cases h
    exact .inl ⟨held_of_pc hpc, fun h' => absurd h' hns⟩
  | waitGet t0 hpc | waitMark t0 hpc | refetch t0 cur hpc | markOk f hf t0 r hpc =>
    cases h
    exact .inl ⟨held_of_pc (by rw [hpc]; rfl), fun h' => by rw [hpc] at h'; cases h'⟩
  | markErr f hf t0 r e hpc | markCore t0 r e hpc =>
    simp only [World.held, hI.last_none (by rw [hpc]; rfl)] at h
    cases h
    exact .inl ⟨held_of_pc (by rw [hpc]; rfl), fun h' => by rw [hpc] at h'; cases h'⟩
  | start t0 cur hpc =>
    simp only [World.held, hI.last_none (by rw [hpc]; rfl)] at h
    cases h
  | retryDispatch t0 e hpc hr =>
    cases h
    have hn := last_none_of_ret (fun t h => (hI.lastHeld t h).2) hr
    exact .inl ⟨held_of_ret hn hpc hr, fun h' => by rw [hpc] at h'; cases h'⟩
  | refetchNone t0 hpc hl =>
    obtain ⟨⟨cur, hc⟩, _⟩ := hI.pcHeld t0 (by rw [hpc]; rfl)
    rw [hl] at hc; cases hc

theorem ctl_wstep {w w' : World} {a : Act} (hs : WStep w a w')
    (hC : ∀ t, w.lastTask = some t → mayRemember w.pc = true ∧ isDispatchErr w.ret = false) :
    ∀ t, w'.lastTask = some t → mayRemember w'.pc = true ∧ isDispatchErr w'.ret = false := by
  intro t h
  have no : mayRemember w.pc = false → w.lastTask = some t → False := fun hm hl => by
    have := (hC t hl).1; rw [hm] at this; cases this
  cases hs with
  | stuck | cancelCtx | user | advance | complete => exact hC t h
  | begin a p hpc hp hmr => exact ⟨hmr, (hC t h).2⟩
  | retryDone => exact ⟨rfl, (hC t h).2⟩
  | finDone | retryNoop => exact ⟨rfl, rfl⟩
  | quiet a o' p g ho hn hfrom hp hmr =>
    refine ⟨?_, (hC t h).2⟩
    rcases hmr with hmr | hmr | hmr
    · exact hmr
    · rw [hmr] at h; cases h
    · exact (no hmr h).elim
  | prologue => cases h
  | fin a s lt g hlt hfrom hs => exact ⟨rfl, plainRet_derr hs⟩
  | announce => exact ⟨rfl, rfl⟩
  | markDone f id o s hpc hs => exact ⟨rfl, by rcases hs with rfl | ⟨e, rfl⟩ <;> rfl⟩
  | derr a t0 e g hpc => exact (no (held_mr hpc) h).elim
  | retryDispatch t0 e hpc hr => have := (hC t h).2; rw [hr] at this; cases this
  | res id o x p s hpc | getNext t0 hpc | waitGet t0 hpc | waitMark t0 hpc | markErr f hf t0 r e hpc
  | markOk f hf t0 r hpc | markCore t0 r e hpc | start t0 cur hpc | refetchNone t0 hpc | refetch t0 cur hpc =>
    exact (no (by rw [hpc]; rfl) h).elim

theorem marked_wstep {w w' : World} {a : Act} (hs : WStep w a w') (hI : Inv w) {t : Task}
    (hm : w'.pc = .d_get t ∨ w'.pc = .d_wait t true) :
    (w.pc = .d_get t ∨ w.pc = .d_wait t true) ∨
    ∃ cur, w'.obs.repo.lookup t.id = some cur ∧ cur.state = .dispatched := by
  cases hs with
  | stuck | cancelCtx | user | advance | complete => exact .inl hm
  | waitGet t0 hpc => rcases hm with hm | hm <;> cases hm; exact .inl (.inr hpc)
  | refetch t0 cur hpc hl =>
    rcases hm with hm | hm <;> simp only [hI.fix, if_true, Pc.d_wait.injEq, beq_iff_eq, reduceCtorEq] at hm
    obtain ⟨rfl, hb⟩ := hm
    exact .inr ⟨cur, hl, hb⟩
  | markOk f hf t0 r hpc hnb hcd hok =>
    rcases hm with hm | hm <;> cases hm
    obtain ⟨hr, hout⟩ := obs_step w.obs (.dispatch t.id) hf rfl
    rw [hout] at hok
    obtain ⟨t1, hl1, hs1⟩ := dispatch_ok hI.wf _ _ hok
    exact .inr ⟨_, hr ▸ (Edit.dispatch _).lookup_hit {} hl1 hs1, rfl⟩
  | begin a p hpc hp | quiet a o' p g ho hn hfrom hp =>
    rcases hm with hm | hm <;> (change p = _ at hm; rw [hm] at hp; cases hp)
  | res id o x p s hpc hfind hps =>
    rcases hps with ⟨rfl, _⟩ | ⟨rfl, _⟩ <;> rcases hm with hm | hm <;> cases hm
  | refetchNone t0 hpc hl =>
    obtain ⟨⟨cur, hc⟩, _⟩ := hI.pcHeld t0 (by rw [hpc]; rfl)
    rw [hl] at hc; cases hc
  | _ => rcases hm with hm | hm <;> cases hm

/-- Bookkeeping is conserved: an id moves from `running` to `completed` to `reported`, and enters
`running` together with the log. -/
theorem total_wstep {w w' : World} {a : Act} (hs : WStep w a w') (hI : Inv w) (x : String) :
    cnt w'.running x + cnt w'.completed x + cnt w'.reported x + (w.log.map (·.id)).count x =
    cnt w.running x + cnt w.completed x + cnt w.reported x + (w'.log.map (·.id)).count x := by
  cases hs with
  | res id o y p s hpc hfind hps | complete id o y hfind =>
    have h1 := (hI.counts id).1
    have h2 := cnt_pos_of_find hfind
    simp only [cnt_filter, cnt_append_one]
    split
    · subst x; omega
    · rfl
  | start t cur hpc hl =>
    simp only [cnt_append_one, List.map_append, List.map_cons, List.map_nil, List.count_append,
      List.count_singleton, beq_iff_eq, eq_comm (a := x)]
    omega
  | _ => rfl

theorem Inv_wstep {w w' : World} {a : Act} (hs : WStep w a w') (hI : Inv w) (hu : w.UserOk a) :
    Inv w' := by
  have hctl := ctl_wstep hs fun t h => (hI.lastHeld t h).2
  have hrepo := (repo_wstep hs hu).2
  have hst : w'.obs.repo.WF ∧ FrameP w.obs.repo w'.obs.repo := by
    rcases hrepo with h | ⟨op, hw, h⟩ <;> rw [h]
    · exact ⟨hI.wf, FrameP.refl _⟩
    · exact ⟨step_wf hI.wf hw.fresh, FrameP.of_step _ _ op hw.plain⟩
  obtain ⟨hwf, hfr⟩ := hst
  have hheld : ∀ t, w'.held = some t → HeldOk w'.obs.repo w'.log t.id := by
    intro t h
    have hlog : w'.log = w.log := by
      rcases start_wstep hs with hl | ⟨t0, cur, hpc, _, _, rfl⟩
      · exact hl
      · simp only [World.held, hI.last_none (by rw [hpc]; rfl)] at h
        cases h
    rw [hlog]
    rcases held_wstep hs hI h with ⟨h0, _⟩ | ⟨hg, _, ho⟩
    · exact (hI.held h0).frame hfr
    · obtain ⟨hm, hsch⟩ := Repo.getNext_mem hg
      have hl := hI.wf.lookup_mem hm
      rw [ho]
      refine ⟨⟨t, hl⟩, fun hin => ?_⟩
      obtain ⟨e, he, hid⟩ := List.mem_map.mp hin
      obtain ⟨_, _, t2, ht2, hst⟩ := hI.logged e he
      rw [hid, hl] at ht2
      cases ht2
      rw [hsch] at hst
      simp [started] at hst
  have hnd : (w'.log.map (·.id)).Nodup := by
    rcases start_wstep hs with hl | ⟨t0, cur, hpc, _, hl, rfl⟩
    · rw [hl]; exact hI.nodup
    · rw [List.map_append]
      exact nodup_concat hI.nodup (hI.pcHeld t0 (by rw [hpc]; rfl)).2
  refine ⟨(fix_wstep hs).trans hI.fix, hwf, fun t h => hheld t (held_of_pc h),
    fun t h => ⟨hheld t (held_of_last (hctl t h).1 h), hctl t h⟩, fun t e hp hr => ?_, fun t hm => ?_,
    fun e he => ?_, hnd, fun x => ?_⟩
  · exact hheld t (held_of_ret (last_none_of_ret hctl hr) hp hr)
  · rcases marked_wstep hs hI hm with h0 | h1
    · -- still dispatched: `MarkAsDone` is not called from these control states
      obtain ⟨cur, hc, hd⟩ := hI.marked t h0
      refine ⟨cur, keep_wstep hs hu hc (by rw [hd]; nofun) fun _ o hpc => ?_, hd⟩
      rcases hpc with hpc | hpc <;> rcases h0 with h0 | h0 <;> cases hpc.symm.trans h0
    · exact h1
  · have old : e ∈ w.log → e.task.state = .dispatched ∧ e.task.id = e.id ∧
        ∃ t, w'.obs.repo.lookup e.id = some t ∧ started t.state := fun he => by
      obtain ⟨h1, h2, t, ht, hs⟩ := hI.logged e he
      obtain ⟨t', ht', hs'⟩ := hfr e.id t ht
      exact ⟨h1, h2, t', ht', hs' hs⟩
    rcases start_wstep hs with hl | ⟨t0, cur, hpc, _, hl, rfl⟩
    · exact old (hl ▸ he)
    · rcases List.mem_append.mp he with he | he
      · exact old he
      · cases List.mem_singleton.mp he
        obtain ⟨cur', hl', hsd⟩ := hI.marked t0 (.inl hpc)
        cases hl.symm.trans hl'
        exact ⟨hsd, (Repo.lookup_some hl).2, cur, hl, .inl hsd⟩
  · -- conservation: the three counts change by what the log gains
    have h := total_wstep hs hI x
    have hc := hI.counts x
    have hc0 := List.nodup_iff_count.mp hI.nodup x
    have hc' := List.nodup_iff_count.mp hnd x
    rw [← List.count_eq_zero] at hc ⊢
    omega

theorem Inv_step {w : World} {a : Act} (hI : Inv w) (hu : w.UserOk a) : Inv (w.step a) :=
  Inv_wstep (step_spec w a) hI hu

theorem Inv_init (t0 : Time) : Inv (World.init t0) where
  fix := rfl
  wf := Repo.WF_empty
  pcHeld := fun t h => by simp [World.init, heldPc] at h
  lastHeld := fun t h => by simp [World.init] at h
  retHeld := fun t e _ h => by simp [World.init] at h
  marked := fun t h => by simp [World.init] at h
  logged := fun e he => by simp [World.init] at he
  nodup := by simp [World.init]
  counts := fun x => by simp [World.init, cnt]

theorem Inv_run {w : World} {acts : List Act} (hI : Inv w) (hs : w.Script acts) : Inv (w.run acts) := by
  induction acts generalizing w with
  | nil => exact hI
  | cons a rest ih => exact ih (Inv_step hI hs.1) hs.2

/-! ## The ghost invariant: every started task was marked as dispatched by this run -/

/-- the id for which this step's `MarkAsDispatched` took effect in the repository, if any: through the observable
wrapper (`markDispatched`), or in the core repository only, reported as failed (`markDispatchedCore`, D21) -/
def marksNow (w : World) : Act → Option String
  | .sched (.markDispatched f hf) =>
    match w.pc with
    | .d_mark t _ =>
      if f != .before && !w.ctxDone && !(w.obs.step (.dispatch t.id) hf).2.isErr then some t.id else none
    | _ => none
  | .sched .markDispatchedCore =>
    match w.pc with
    | .d_mark t _ =>
      if !w.ctxDone && !(Repo.step {} w.obs.repo w.obs.clock.now (.dispatch t.id)).2.isErr then some t.id else none
    | _ => none
  | _ => none

/-- the ids the scheduler successfully marked as dispatched along the run of `acts` from `w`, in order -/
def marksOf (w : World) : List Act → List String
  | [] => []
  | a :: rest => (marksNow w a).toList ++ marksOf (w.step a) rest

theorem marksOf_append (w : World) (xs ys : List Act) :
    marksOf w (xs ++ ys) = marksOf w xs ++ marksOf (w.run xs) ys := by
  induction xs generalizing w with
  | nil => rfl
  | cons a rest ih => simp [marksOf, ih, World.run_cons]

def GInv (w : World) (G : List String) : Prop :=
  ∀ id t, w.obs.repo.lookup id = some t → started t.state → id ∈ G

theorem frame_rev {r : Repo} {now : Time} {op : Op} (hp : op.isLifecycle = true) {id : String}
    {t' : Task} (hl : (Repo.step {} r now op).1.lookup id = some t') (hs : started t'.state) :
    (∃ t, r.lookup id = some t ∧ started t.state) ∨ op = .dispatch id := by
  rcases step_lookup_rev {} r now op hp hl with ⟨-, p, -, rfl⟩ | ⟨t, hr, rfl | ⟨want, f, he, hw, rfl⟩⟩
  · simp [started] at hs
  · exact .inl ⟨_, hr, hs⟩
  · cases he with
    | update => exact .inl ⟨_, hr, hs⟩
    | cancel => simp [started] at hs
    | dispatch => exact .inr rfl
    | done id e => exact .inl ⟨_, hr, .inl hw⟩

theorem GInv.mono {w : World} {G G' : List String} (h : GInv w G) (hsub : ∀ x ∈ G, x ∈ G') : GInv w G' :=
  fun id t hl hs => hsub _ (h id t hl hs)

theorem Writes.marks {w : World} {a : Act} {id : String} (h : Writes w a (.dispatch id))
    (hok : (Repo.step {} w.obs.repo w.obs.clock.now (.dispatch id)).2.isErr = false) :
    marksNow w a = some id := by
  cases h with
  | mark hpc hnb hcd =>
    have hb : (_ != Fault.before) = true := bne_iff_ne.mpr hnb
    simp only [marksNow, hpc, hb, hcd, (obs_step w.obs (.dispatch _) _ rfl).2, hok, Bool.not_false,
      Bool.and_self, if_true]
  | markCore hpc hcd => simp only [marksNow, hpc, hcd, hok, Bool.not_false, Bool.and_self, if_true]

theorem GInv_wstep {w w' : World} {a : Act} {G : List String} (hs : WStep w a w')
    (hu : w.UserOk a) (hG : GInv w G) : GInv w' (G ++ (marksNow w a).toList) := by
  intro id t' hl hst
  rcases (repo_wstep hs hu).2 with hr | ⟨op, hw, hr⟩ <;> rw [hr] at hl
  · exact List.mem_append_left _ (hG id t' hl hst)
  · rcases frame_rev hw.plain hl hst with ⟨t0, h0, hs0⟩ | rfl
    · exact List.mem_append_left _ (hG id t0 h0 hs0)
    · cases hok : (Repo.step {} w.obs.repo w.obs.clock.now (.dispatch id)).2.isErr
      · rw [hw.marks hok]; exact List.mem_append_right _ (List.mem_singleton.mpr rfl)
      · rw [step_err_fst hok] at hl
        exact List.mem_append_left _ (hG id t' hl hst)

theorem GInv_run {w : World} {acts : List Act} {G : List String} (hs : w.Script acts)
    (hG : GInv w G) : GInv (w.run acts) (G ++ marksOf w acts) := by
  induction acts generalizing w G with
  | nil => simpa [marksOf, World.run] using hG
  | cons a rest ih =>
    have := ih hs.2 (GInv_wstep (step_spec w a) hs.1 hG)
    simpa [marksOf, World.run_cons, List.append_assoc] using this

theorem GInv_init (t0 : Time) : GInv (World.init t0) [] := by
  intro id t hl
  simp [World.init, Repo.lookup] at hl

theorem GInv.logged {w : World} {G : List String} (hG : GInv w G) (hI : Inv w) : ∀ e ∈ w.log, e.id ∈ G :=
  fun e he => let ⟨_, _, t, hl, hst⟩ := hI.logged e he; hG e.id t hl hst

/-- The step that starts a work function is the `GetById` of `dispatchTask`; the task is then stored in state
dispatched and has not been started. -/
theorem start_step {w : World} {a : Act} (hI : Inv w) {e : RunEntry}
    (hnew : e ∈ (w.step a).log) (hold : e ∉ w.log) :
    a = .sched (.getById .none) ∧ (∃ t, w.pc = .d_get t ∧ t.id = e.id) ∧
    w.obs.repo.lookup e.id = some e.task ∧ e.task.state = .dispatched ∧ e.id ∉ w.log.map (·.id) := by
  rcases log_wstep (step_spec w a) with h | ⟨t, cur, hpc, ha, hl, h⟩ <;> rw [h] at hnew
  · exact absurd hnew hold
  · rcases List.mem_append.mp hnew with he | he
    · exact absurd he hold
    · cases List.mem_singleton.mp he
      obtain ⟨cur', hc', hd⟩ := hI.marked t (.inl hpc)
      cases hl.symm.trans hc'
      exact ⟨ha, ⟨t, hpc, rfl⟩, hl, hd, (hI.pcHeld t (by rw [hpc]; rfl)).2⟩

def terminal (s : St) : Prop := s = .cancelled ∨ s = .done ∨ s = .err

theorem terminal_step {w : World} {a : Act} (hu : w.UserOk a) {id : String} {t : Task}
    (hl : w.obs.repo.lookup id = some t) (ht : terminal t.state) :
    (w.step a).obs.repo.lookup id = some t :=
  keep_wstep (step_spec w a) hu hl (fun hs => by rcases ht with h | h | h <;> cases h.symm.trans hs)
    fun hd => by rcases ht with h | h | h <;> cases h.symm.trans hd

/-- A task stored in a terminal state stays exactly as it is, and no step starts its work function. -/
theorem terminal_run {w : World} {acts : List Act} (hI : Inv w) (hs : w.Script acts) {id : String} {t : Task}
    (hl : w.obs.repo.lookup id = some t) (ht : terminal t.state) :
    (w.run acts).obs.repo.lookup id = some t ∧ ∀ e ∈ (w.run acts).log, e.id = id → e ∈ w.log := by
  induction acts generalizing w with
  | nil => exact ⟨hl, fun _ he _ => he⟩
  | cons a rest ih =>
    obtain ⟨h1, h2⟩ := ih (Inv_step hI hs.1) hs.2 (terminal_step hs.1 hl ht)
    refine ⟨h1, fun e he hid => ?_⟩
    by_cases hold : e ∈ w.log
    · exact hold
    · obtain ⟨_, _, hle, hd, _⟩ := start_step hI (h2 e he hid) hold
      cases (hid ▸ hle).symm.trans hl
      rcases ht with h | h | h <;> cases h.symm.trans hd

/-! ## The timing invariant (C03): whatever the scheduler holds is due, unless it was postponed -/

def Due (r : Repo) (b : Time) (id : String) : Prop :=
  ∀ cur, r.lookup id = some cur → cur.scheduledAt ≤ b

theorem isNorm_sched {r : Repo} (h : r.WF) {id : String} {cur : Task} (hl : r.lookup id = some cur) :
    normalize cur.scheduledAt = cur.scheduledAt := by
  have := h.1 cur (Repo.lookup_some hl).1
  simp only [Task.wellFormed, Task.timesNormalized, Bool.and_eq_true] at this
  exact normalize_of_isNorm this.1.2.1.1.1.1.1

theorem Due.step {r : Repo} {b : Time} {id : String} (hd : Due r b id) (h : r.WF) (now : Time) (op : Op)
    (hp : op.isLifecycle = true) (hst : ∃ cur, r.lookup id = some cur)
    (hnp : ∀ p, op = .update id p → p.scheduledAt = none) : Due (Repo.step {} r now op).1 b id := by
  obtain ⟨cur, hl⟩ := hst
  obtain ⟨cur', hl', he⟩ := step_edge {} _ now op hp hl
  intro cur'' hl''
  cases hl'.symm.trans hl''
  refine Int.le_trans (Int.le_of_eq ?_) (hd cur hl)
  rcases he with rfl | ⟨want, f, he, hw, rfl⟩
  · rfl
  · cases he with
    | update id p =>
      simp only [Ent.setUpdate, Task.update, Task.normalizeTime, Param.normalize, hnp p rfl, Option.map_none, Option.getD_none]
      exact isNorm_sched h hl
    | done id e => cases e <;> rfl
    | _ => rfl

structure TInv (w : World) : Prop where
  /-- the stored task is not scheduled later than the copy the scheduler holds: what `NoPostpone` buys -/
  stored : ∀ t, w.held = some t → Due w.obs.repo t.scheduledAt t.id
  /-- the held copy is due once it is past the check in `NextScheduled` -/
  due : ∀ t, w.held = some t → w.pc = .s_nextSched t ∨ t.scheduledAt ≤ w.obs.clock.now
  early : ∀ e ∈ w.log, e.task.scheduledAt ≤ e.at_

theorem TInv_wstep {w w' : World} {a : Act} (hs : WStep w a w') (hI : Inv w) (hT : TInv w)
    (hu : w.UserOk a) (hp : a.postponesHeld w = false) : TInv w' := by
  obtain ⟨hnow, hrepo⟩ := repo_wstep hs hu
  refine ⟨fun t h => ?_, fun t h => ?_, fun e he => ?_⟩
  · rcases held_wstep hs hI h with ⟨h0, _⟩ | ⟨hg, _, ho⟩
    · rcases hrepo with hr | ⟨op, hw, hr⟩ <;> rw [hr]
      · exact hT.stored t h0
      · refine (hT.stored t h0).step hI.wf _ _ hw.plain (hI.held h0).1 fun p hop => ?_
        subst hop
        cases hw
        simpa only [Act.postponesHeld, World.heldId, h0, Option.map_some, beq_self_eq_true,
          Bool.true_and, Option.isSome_eq_false_iff, Option.isNone_iff_eq_none] using hp
    · intro cur hl
      rw [ho, hI.wf.lookup_mem (Repo.getNext_mem hg).1] at hl
      cases hl
      exact Int.le_refl _
  · rcases held_wstep hs hI h with ⟨h0, hck⟩ | ⟨_, hpc, _⟩
    · rcases hT.due t h0 with hpc | hle
      · exact (hck hpc).imp_right (Int.le_trans · hnow)
      · exact .inr (Int.le_trans hle hnow)
    · exact .inl hpc
  · rcases log_wstep hs with hl | ⟨t, cur, hpc, _, hlk, hl⟩ <;> rw [hl] at he
    · exact hT.early e he
    · rcases List.mem_append.mp he with he | he
      · exact hT.early e he
      · have hh : w.held = some t := held_of_pc (by rw [hpc]; rfl)
        cases List.mem_singleton.mp he
        refine Int.le_trans (hT.stored t hh cur hlk) ((hT.due t hh).resolve_left ?_)
        rw [hpc]; exact Pc.noConfusion

theorem TInv_init (t0 : Time) : TInv (World.init t0) where
  stored _ h := by cases h
  due _ h := by cases h
  early _ he := by cases he

theorem TInv_run {w : World} {acts : List Act} (hI : Inv w) (hT : TInv w) (hs : w.Script acts)
    (hp : w.NoPostpone acts) : TInv (w.run acts) := by
  induction acts generalizing w with
  | nil => exact hT
  | cons a rest ih =>
    exact ih (Inv_step hI hs.1) (TInv_wstep (step_spec w a) hI hT hs.1 hp.1) hs.2 hp.2

/-! ## Completion bookkeeping (C06 at quiescence) -/

/-- the stored task records outcome `o`; a run ended by dispatcher cancellation is left dispatched -/
def recordedQ (o : Outcome) (t : Task) : Prop :=
  match o with
  | .nil => t.state = .done
  | .err msg => t.state = .err ∧ t.err = msg
  | .ctxCanceled => t.state = .dispatched

def Rec (r : Repo) (id : String) (o : Outcome) : Prop := ∃ t, r.lookup id = some t ∧ recordedQ o t

/-- the outcome is on its way to the repository: `MarkAsDone` is about to be called, or failed and the
returned state awaits `Retry` -/
def PendC (w : World) (id : String) (o : Outcome) : Prop :=
  AtMD w id o ∨ (w.pc = .idle ∧ ∃ e, w.ret = .taskDone id o (some e))

/-- where the scheduler may take an outcome from: the call it is about to make, or the state it returned -/
def Src (w : World) (id : String) (o : Outcome) : Prop := AtMD w id o ∨ ∃ e, w.ret = .taskDone id o e

def Pend (w : World) (id : String) (o : Outcome) : Prop :=
  o ≠ .ctxCanceled ∧ (∃ t, w.obs.repo.lookup id = some t ∧ t.state = .dispatched) ∧ PendC w id o

structure QInv (w : World) : Prop where
  rep : ∀ id o, (id, o) ∈ w.reported → Rec w.obs.repo id o ∨ Pend w id o
  live : ∀ id, 0 < cnt w.running id + cnt w.completed id →
    ∃ t, w.obs.repo.lookup id = some t ∧ t.state = .dispatched
  src : ∀ id o, Src w id o → (id, o) ∈ w.reported
  noCtx : ∀ id o, AtMD w id o → o ≠ .ctxCanceled
  cover : ∀ x, (w.log.map (·.id)).count x ≤ cnt w.running x + cnt w.completed x + cnt w.reported x

theorem recordedQ_ne_sched {o : Outcome} {t : Task} (h : recordedQ o t) : t.state ≠ .scheduled := by
  intro hs
  cases o <;> simp only [recordedQ, hs, reduceCtorEq, false_and] at h

theorem reported_unique {α : Type} {l : List (String × α)} {id : String} {o o' : α}
    (hc : cnt l id ≤ 1) (h1 : (id, o) ∈ l) (h2 : (id, o') ∈ l) : o = o' := by
  obtain ⟨s, t, rfl⟩ := List.append_of_mem h1
  simp only [cnt, List.map_append, List.map_cons, List.count_append, List.count_cons_self] at hc
  rcases List.mem_append.mp h2 with h | h
  · have := cnt_pos_of_mem h; unfold cnt at this; omega
  · rcases List.mem_cons.mp h with h | h
    · cases h; rfl
    · have := cnt_pos_of_mem h; unfold cnt at this; omega

theorem retryOk_step {w : World} (h : w.retryOk (.sched .beginStep) = true) (hpc : w.pc = .idle) :
    ∀ id o e, w.ret ≠ .taskDone id o (some e) := by
  intro id o e hr
  simp [World.retryOk, hpc, hr] at h

theorem retryOk_retry {w : World} (h : w.retryOk (.sched .beginRetry) = true) (hpc : w.pc = .idle) :
    ∀ id e, w.ret ≠ .taskDone id .ctxCanceled e := by
  intro id e hr
  simp [World.retryOk, hpc, hr] at h

theorem PendC.bare {w : World} {id : String} {o : Outcome} (h : PendC w id o) :
    bare w.pc = false ∧ heldPc w.pc = none := by
  rcases h with (h | h) | ⟨h, _⟩ <;> rw [h] <;> exact ⟨rfl, rfl⟩

theorem AtMD.bare {w : World} {id : String} {o : Outcome} (h : AtMD w id o) :
    bare w.pc = false ∧ w.pc ≠ .idle := by
  rcases h with h | h <;> rw [h] <;> exact ⟨rfl, nofun⟩

theorem AtMD.inj {w : World} {id id' : String} {o o' : Outcome} (h : AtMD w id o) (h' : AtMD w id' o') :
    id' = id ∧ o' = o := by
  rcases h with h | h <;> rcases h' with h' | h' <;> rw [h] at h' <;> cases h' <;> exact ⟨rfl, rfl⟩

theorem PendC.eq_of_atMD {w : World} {id id' : String} {o o' : Outcome} (h : PendC w id o)
    (h' : AtMD w id' o') : id' = id ∧ o' = o :=
  h.elim (·.inj h') fun ⟨hi, _⟩ => absurd hi (AtMD.bare h').2

theorem pend_wstep {w w' : World} {a : Act} (hs : WStep w a w') (hr : w.retryOk a = true)
    {id : String} {o : Outcome} (h : PendC w id o) :
    PendC w' id o ∨
    w'.obs.repo = (Repo.step {} w.obs.repo w.obs.clock.now (.done id (World.outcomeErr o))).1 := by
  -- nothing is on its way in a control state other than idle and the two `MarkAsDone` calls
  have no : ∀ {p : Pc}, w.pc = p → bare p = true ∨ (heldPc p).isSome = true → False := fun hpc hb => by
    rw [← hpc, h.bare.1, h.bare.2] at hb
    rcases hb with hb | hb <;> cases hb
  have idle : w.pc = .idle → ∃ e, w.ret = .taskDone id o (some e) := fun hpc =>
    h.elim (fun h => absurd hpc (AtMD.bare h).2) (·.2)
  cases hs with
  | stuck | cancelCtx | user | advance | complete => exact .inl h
  | begin a p hpc hp hmr ha =>
    obtain ⟨e, he⟩ := idle hpc
    rcases ha with rfl | ⟨_, e', he'⟩
    · exact absurd he (retryOk_step hr hpc id o e)
    · cases he.symm.trans he'
  | retryDone id0 o0 e0 hpc hr0 =>
    obtain ⟨e, he⟩ := idle hpc
    cases he.symm.trans hr0
    exact .inl (.inl (.inr rfl))
  | retryNoop hpc hr0 => obtain ⟨e, he⟩ := idle hpc; rw [he] at hr0; cases hr0
  | retryDispatch t e hpc hr0 => obtain ⟨e, he⟩ := idle hpc; cases he.symm.trans hr0
  | finDone f id0 o0 e hpc => obtain ⟨rfl, rfl⟩ := h.eq_of_atMD hpc; exact .inl (.inr ⟨rfl, e, rfl⟩)
  | markDone f id0 o0 s hpc hs => obtain ⟨rfl, rfl⟩ := h.eq_of_atMD hpc; exact .inr rfl
  | quiet a o' p g ho hn hfrom => exact (no rfl (.inl hfrom)).elim
  | fin a s lt g hlt hfrom =>
    rcases hfrom with hfrom | ⟨t, hpc⟩
    · exact (no rfl (.inl hfrom)).elim
    · exact (no hpc (.inr rfl)).elim
  | derr a t e g hpc => exact (no rfl (.inr (by rw [hpc]; rfl))).elim
  | prologue a t hl hfrom => rcases hfrom with hpc | hpc <;> exact (no hpc (.inl rfl)).elim
  | res _ _ _ _ _ hpc | getNext _ hpc => exact (no hpc (.inl rfl)).elim
  | announce _ hpc | waitGet _ hpc | waitMark _ hpc | markErr _ _ _ _ _ hpc | markOk _ _ _ _ hpc
  | markCore _ _ _ hpc | start _ _ hpc | refetchNone _ hpc | refetch _ _ hpc =>
    exact (no hpc (.inr rfl)).elim

/-- `MarkAsDone(id, o)` is reached from the result branch of `Step` (never with `context.Canceled`) or by
`Retry` of a returned `TaskDone(id, o, _)` -/
theorem atMD_wstep {w w' : World} {a : Act} (hs : WStep w a w') {id : String} {o : Outcome}
    (h : AtMD w' id o) :
    AtMD w id o ∨ (w.pc = .idle ∧ a = .sched .beginRetry ∧ ∃ e, w.ret = .taskDone id o e) ∨
    (w'.reported = w.reported ++ [(id, o)] ∧ o ≠ .ctxCanceled) := by
  cases hs with
  | stuck | cancelCtx | user | advance | complete => exact .inl h
  | retryDone id0 o0 e0 hpc hr0 =>
    rcases h with h | h <;> cases h
    exact .inr (.inl ⟨hpc, rfl, e0, hr0⟩)
  | res id0 o0 x p s hpc hfind hps =>
    rcases hps with ⟨rfl, _⟩ | ⟨rfl, _, hne⟩ <;> rcases h with h | h <;> cases h
    exact .inr (.inr ⟨rfl, hne⟩)
  | begin a p hpc hp | quiet a o' p g ho hn hfrom hp => cases hp.symm.trans (AtMD.bare h).1
  | _ => rcases h with h | h <;> cases h

theorem src_wstep {w w' : World} {a : Act} (hs : WStep w a w') {id : String} {o : Outcome}
    (h : Src w' id o) : Src w id o ∨ w'.reported = w.reported ++ [(id, o)] := by
  rcases h with h | ⟨e, h⟩
  · rcases atMD_wstep hs h with h | ⟨_, _, h⟩ | ⟨h, _⟩
    · exact .inl (.inl h)
    · exact .inl (.inr h)
    · exact .inr h
  · cases hs with
    | fin a s lt g hlt hfrom hs => change s = _ at h; rw [h] at hs; cases hs
    | finDone f id0 o0 e0 hpc => cases h; exact .inl (.inl hpc)
    | markDone f id0 o0 s hpc hs =>
      rcases hs with rfl | ⟨e', rfl⟩ <;> cases h
      exact .inl (.inl hpc)
    | res id0 o0 x p s hpc hfind hps =>
      rcases hps with ⟨_, rfl, _⟩ | ⟨_, rfl, _⟩
      · cases h; exact .inr rfl
      · exact .inl (.inr ⟨e, h⟩)
    | announce | derr | markErr | markCore | start | retryNoop => cases h
    | _ => exact .inl (.inr ⟨e, h⟩)

theorem QInv_wstep {w w' : World} {a : Act} (hs : WStep w a w') (hI : Inv w) (hQ : QInv w)
    (hu : w.UserOk a) (hr : w.retryOk a = true) : QInv w' := by
  have hrepo := (repo_wstep hs hu).2
  have hsub : ∀ p, p ∈ w.reported → p ∈ w'.reported := fun p hp => by
    rcases res_wstep hs with h | ⟨_, _, _, _, _, _, _, rfl⟩
    · rw [h]; exact hp
    · exact List.mem_append_left _ hp
  have done : ∀ {id o}, Pend w id o →
      w'.obs.repo = (Repo.step {} w.obs.repo w.obs.clock.now (.done id (World.outcomeErr o))).1 →
      Rec w'.obs.repo id o := fun {id o} ⟨hne, ⟨t, ht, hd⟩, _⟩ he => by
    refine ⟨doneTask w.obs.clock.now (World.outcomeErr o) t, ?_, ?_⟩
    · rw [he]; exact (Edit.done _ _).lookup_hit {} ht hd
    · cases o <;> simp [recordedQ, doneTask, World.outcomeErr] at hne ⊢
  refine ⟨fun id o h => ?_, fun id h => ?_, fun id o h => ?_, fun id o h => ?_, fun x => ?_⟩
  · have old : (id, o) ∈ w.reported → Rec w'.obs.repo id o ∨ Pend w' id o := fun h => by
      rcases hQ.rep id o h with ⟨t, ht, hrq⟩ | hp
      · -- recorded: terminal, or left dispatched by a cancellation, which is never handed to `MarkAsDone`
        refine .inl ⟨t, keep_wstep hs hu ht (recordedQ_ne_sched hrq) fun hd o' hm => ?_, hrq⟩
        cases reported_unique (by have := (hI.counts id).1; omega) (hQ.src id o' (.inl hm)) h
        cases o <;> simp only [recordedQ, hd] at hrq
        · cases hrq
        · cases hrq.1
        · exact hQ.noCtx _ _ hm rfl
      · obtain ⟨hne, ⟨t, ht, hd⟩, hpc⟩ := hp
        rcases pend_wstep hs hr hpc with hpc' | he
        · -- still on its way: still dispatched, unless the write of this step is its own `MarkAsDone`
          rcases hrepo with h' | ⟨op, hw, h'⟩
          · exact .inr ⟨hne, ⟨t, h' ▸ ht, hd⟩, hpc'⟩
          · cases hw with
            | done hm =>
              obtain ⟨rfl, rfl⟩ := hpc.eq_of_atMD hm
              exact .inl (done ⟨hne, ⟨t, ht, hd⟩, hpc⟩ h')
            | _ =>
              refine .inr ⟨hne, ⟨t, ?_, hd⟩, hpc'⟩
              rw [h']
              exact keep_ne {} _ _ _ rfl ht (by rw [hd]; nofun) fun _ _ => nofun
        · exact .inl (done ⟨hne, ⟨t, ht, hd⟩, hpc⟩ he)
    rcases res_wstep hs with hrep | ⟨id0, o0, x, p, s, hfind, hps, rfl⟩
    · exact old (hrep ▸ h)
    · rcases List.mem_append.mp h with h | h
      · exact old h
      · cases List.mem_singleton.mp h
        obtain ⟨t, ht, hd⟩ := hQ.live id (by have := cnt_pos_of_find hfind; omega)
        rcases hps with ⟨_, _, rfl⟩ | ⟨rfl, _, hne⟩
        · exact .inl ⟨t, ht, hd⟩
        · exact .inr ⟨hne, ⟨t, ht, hd⟩, .inl (.inl rfl)⟩
  · rcases start_wstep hs with hl | ⟨t0, cur, hpc, _, hlk, rfl⟩
    · have := total_wstep hs hI id
      rw [hl] at this
      have : cnt w.reported id ≤ cnt w'.reported id := by
        rcases res_wstep hs with h | ⟨_, _, _, _, _, _, _, rfl⟩
        · rw [h]; exact Nat.le_refl _
        · rw [cnt_append_one]; exact Nat.le_add_right _ _
      obtain ⟨t, ht, hd⟩ := hQ.live id (by omega)
      refine ⟨t, keep_wstep hs hu ht (by rw [hd]; nofun) fun _ o hm => ?_, hd⟩
      have := cnt_pos_of_mem (hQ.src id o (.inl hm))
      have := (hI.counts id).1
      omega
    · simp only [cnt_append_one] at h
      by_cases hid : id = t0.id
      · subst hid; exact hI.marked t0 (.inl hpc)
      · simp only [hid, if_false, Nat.add_zero] at h; exact hQ.live id h
  · rcases src_wstep hs h with h | h
    · exact hsub _ (hQ.src id o h)
    · rw [h]; exact List.mem_append_right _ (List.mem_singleton.mpr rfl)
  · rcases atMD_wstep hs h with h | ⟨hpc, rfl, e, he⟩ | ⟨_, h⟩
    · exact hQ.noCtx id o h
    · rintro rfl; exact retryOk_retry hr hpc id e he
    · exact h
  · have := total_wstep hs hI x
    have := hQ.cover x
    omega

theorem QInv_init (t0 : Time) : QInv (World.init t0) where
  rep := fun id o h => by cases h
  live := fun id h => by simp [World.init, cnt] at h
  src := fun id o h => by rcases h with (h | h) | ⟨e, h⟩ <;> cases h
  noCtx := fun id o h => by rcases h with h | h <;> cases h
  cover := fun x => Nat.zero_le _

theorem QInv_run {w : World} {acts : List Act} (hI : Inv w) (hQ : QInv w) (hs : w.Script acts)
    (hr : w.RetryDiscipline acts) : QInv (w.run acts) := by
  induction acts generalizing w with
  | nil => exact hQ
  | cons a rest ih =>
    exact ih (Inv_step hI hs.1) (QInv_wstep (step_spec w a) hI hQ hs.1 hr.1) hs.2 hr.2

/-- When the scheduler is idle and its last returned state is not an error state, nothing is on its way. -/
theorem QInv.recorded {w : World} (hQ : QInv w) (hpc : w.pc = .idle) (he : w.ret.err = none) :
    ∀ id o, (id, o) ∈ w.reported → Rec w.obs.repo id o := fun id o h =>
  (hQ.rep id o h).resolve_right fun hp => by
    rcases hp.2.2 with h' | ⟨_, e, h'⟩
    · exact absurd hpc (AtMD.bare h').2
    · rw [h'] at he; cases he

theorem QInv.reported {w : World} (hQ : QInv w) (h1 : w.running = []) (h2 : w.completed = []) :
    ∀ e ∈ w.log, ∃ o, (e.id, o) ∈ w.reported := fun e hel => by
  have := hQ.cover e.id
  rw [h1, h2] at this
  simp only [cnt_nil, Nat.zero_add] at this
  exact cnt_pos_mem (Nat.lt_of_lt_of_le (List.count_pos_iff.mpr (List.mem_map_of_mem hel)) this)

/-! ## Completions only enter through `complete` -/

theorem lists_wstep {w w' : World} {a : Act} (hs : WStep w a w') (p : String × Outcome)
    (h : p ∈ w'.completed ∨ p ∈ w'.reported) :
    p ∈ w.completed ∨ p ∈ w.reported ∨ a = .complete p.1 p.2 := by
  cases hs
  case res id o x p' s hpc hfind hps =>
    rcases h with h | h
    · exact .inl (List.mem_filter.mp h).1
    · rcases List.mem_append.mp h with h | h
      · exact .inr (.inl h)
      · simp only [List.mem_singleton] at h
        subst h
        have h1 := List.mem_of_find?_eq_some hfind
        have h2 := List.find?_some hfind
        simp only [beq_iff_eq] at h2
        subst h2
        exact .inl h1
  case complete id o x hfind =>
    rcases h with h | h
    · rcases List.mem_append.mp h with h | h
      · exact .inl h
      · simp only [List.mem_singleton] at h
        subst h
        exact .inr (.inr rfl)
    · exact .inr (.inl h)
  all_goals (rcases h with h | h; exact .inl h; exact .inr (.inl h))

theorem lists_run (w : World) (acts : List Act) (p : String × Outcome)
    (h : p ∈ (w.run acts).completed ∨ p ∈ (w.run acts).reported) :
    p ∈ w.completed ∨ p ∈ w.reported ∨ .complete p.1 p.2 ∈ acts := by
  induction acts generalizing w with
  | nil => rcases h with h | h; exact .inl h; exact .inr (.inl h)
  | cons a rest ih =>
    rcases or_assoc.mpr (ih (w.step a) h) with h | h
    · rcases lists_wstep (step_spec w a) p h with h | h | h
      · exact .inl h
      · exact .inr (.inl h)
      · exact .inr (.inr (by rw [h]; exact List.mem_cons_self))
    · exact .inr (.inr (List.mem_cons_of_mem _ h))

end WP
end Gk
