/-
Basic definitions and frame lemmas for the proofs about `Gk.H` (port of `container/heap`).
-/
import Gk.Heap

set_option linter.unusedSectionVars false

namespace Gk
namespace H
variable {α : Type} [DecidableEq α]

/-- What we need of the comparator (it is `sortabletask.Less` on distinct ranks: a strict total
order, but we state only what the proofs use). -/
structure LtOrder (lt : α → α → Bool) : Prop where
  irrefl : ∀ a, lt a a = false
  trans : ∀ a b c, lt a b = true → lt b c = true → lt a c = true
  /-- transitivity of `≥` (follows from totality). -/
  ntrans : ∀ a b c, lt a b = false → lt b c = false → lt a c = false

theorem LtOrder.not_lt_of_lt_of_not_lt {lt : α → α → Bool} (o : LtOrder lt) {a b c : α}
    (hab : lt a b = true) (hcb : lt c b = false) : lt c a = false := by
  cases hca : lt c a with
  | false => rfl
  | true =>
    have := o.trans _ _ _ hca hab
    rw [hcb] at this
    cases this

theorem LtOrder.asymm {lt : α → α → Bool} (o : LtOrder lt) {a b : α} (h : lt a b = true) :
    lt b a = false :=
  o.not_lt_of_lt_of_not_lt h (o.irrefl b)

/-- min-heap order on the whole array: no child is smaller than its parent. -/
def IsHeap (lt : α → α → Bool) (arr : Array α) : Prop :=
  ∀ i j (hi : i < arr.size) (hj : j < arr.size), (j = 2*i+1 ∨ j = 2*i+2) → lt arr[j] arr[i] = false

/-- every element's Index field equals its position. -/
def IdxOk (h : H α) : Prop := ∀ i (hi : i < h.arr.size), h.idx h.arr[i] = (i : Int)

/-- Heap order (parent form) on the prefix of length `n`. -/
def HeapP (lt : α → α → Bool) (arr : Array α) (n : Nat) : Prop :=
  ∀ j (hj : j < arr.size), 0 < j → j < n → lt arr[j] (arr[(j-1)/2]'(by omega)) = false

/-! ### Parent and child positions

What the heap proofs use of `(j - 1) / 2`, in place of `omega` on a division: one such call costs more than
the rest of the proof it stands in. -/

theorem parent_lt {j : Nat} (h : 0 < j) : (j - 1) / 2 < j :=
  Nat.lt_of_le_of_lt (Nat.div_le_self _ _) (Nat.sub_lt h Nat.one_pos)

theorem pos_of_parent_ne {j : Nat} (h : ¬ (j - 1) / 2 = j) : 0 < j :=
  Nat.pos_of_ne_zero fun e => h (e ▸ rfl)

theorem child_iff {c p : Nat} : (c = 2 * p + 1 ∨ c = 2 * p + 2) ↔ 0 < c ∧ (c - 1) / 2 = p := by
  omega

theorem isHeap_iff_heapP (lt : α → α → Bool) (arr : Array α) :
    IsHeap lt arr ↔ HeapP lt arr arr.size := by
  constructor
  · intro h j hj h0 _
    exact h ((j-1)/2) j (Nat.lt_trans (parent_lt h0) hj) hj (child_iff.2 ⟨h0, rfl⟩)
  · intro h i j hi hj hij
    obtain ⟨h0, rfl⟩ := child_iff.1 hij
    exact h j hj h0 hj

theorem HeapP.mono {lt : α → α → Bool} {arr : Array α} {n m : Nat} (h : HeapP lt arr n) (hm : m ≤ n) :
    HeapP lt arr m := fun j hj h0 hjm => h j hj h0 (by omega)

theorem nodup_inj {arr : Array α} (nd : arr.toList.Nodup) {i j : Nat} (hi : i < arr.size)
    (hj : j < arr.size) (h : arr[i] = arr[j]) : i = j :=
  (List.getElem_inj (xs := arr.toList) (h₀ := hi) (h₁ := hj) nd).1 h

@[simp] theorem swap_arr (h : H α) (i j : Nat) (hi hj) :
    (h.swap i j hi hj).arr = h.arr.swap i j hi hj := rfl

theorem swap_idx (h : H α) (i j : Nat) (hi hj) (x : α) :
    (h.swap i j hi hj).idx x =
      if x = h.arr[i] then (j : Int) else if x = h.arr[j] then (i : Int) else h.idx x := by
  simp [swap]

/-- The relation between a heap and the result of a sequence of `swap`s. -/
structure Frame (h h' : H α) : Prop where
  perm : h'.arr.toList.Perm h.arr.toList
  idxOk : h.arr.toList.Nodup → IdxOk h → IdxOk h'
  idx_out : ∀ y, y ∉ h.arr.toList → h'.idx y = h.idx y

theorem Frame.refl (h : H α) : Frame h h := ⟨List.Perm.refl _, fun _ ok => ok, fun _ _ => rfl⟩

theorem Frame.trans {h h' h'' : H α} (f : Frame h h') (g : Frame h' h'') : Frame h h'' where
  perm := g.perm.trans f.perm
  idxOk nd ok := g.idxOk (f.perm.nodup_iff.2 nd) (f.idxOk nd ok)
  idx_out y hy := by
    rw [g.idx_out y (fun hy' => hy (f.perm.mem_iff.1 hy')), f.idx_out y hy]

theorem Frame.size_eq {h h' : H α} (f : Frame h h') : h'.arr.size = h.arr.size := by
  have := f.perm.length_eq
  simpa using this

theorem Frame.nodup {h h' : H α} (f : Frame h h') (nd : h.arr.toList.Nodup) : h'.arr.toList.Nodup :=
  f.perm.nodup_iff.2 nd

theorem swap_frame (h : H α) (i j : Nat) (hi hj) : Frame h (h.swap i j hi hj) where
  perm := by
    have := Array.swap_perm (xs := h.arr) hi hj
    exact this.toList
  idxOk nd ok := by
    intro k hk
    have hk' : k < h.arr.size := by simpa using hk
    have nd' : (h.arr.swap i j hi hj).toList.Nodup := (Array.swap_perm hi hj).toList.nodup_iff.2 nd
    show (if _ = _ then _ else if _ = _ then _ else _) = _
    by_cases hkj : k = j
    · subst hkj; exact if_pos rfl
    · rw [if_neg fun e => hkj (nodup_inj nd' hk (by simpa using hj) e)]
      by_cases hki : k = i
      · subst hki; exact if_pos rfl
      · rw [if_neg fun e => hki (nodup_inj nd' hk (by simpa using hi) e)]
        exact (congrArg h.idx (Array.getElem_swap_of_ne hki hkj)).trans (ok k hk')
  idx_out y hy := by
    rw [swap_idx]
    have h1 : y ≠ h.arr[i] := fun e => hy (by simp [e])
    have h2 : y ≠ h.arr[j] := fun e => hy (by simp [e])
    simp [h1, h2]

end H
end Gk
