/-
The coarse view of the scheduler automaton that the safety invariants need: `WStep w a w'` has one constructor
per kind of move they distinguish (branches that differ only in fields no invariant looks at are merged), and
`step_spec` says every step is one of them. `World.Sched` (`Gk.Proofs.Sched`) is the exact transcription of
`World.sched`; `WStep.of_sched` sorts its leaves into the constructors here, so every `*_wstep` lemma also
applies to a `Sched` hypothesis. Both relations describe the next world, `(w.sched a).1`, only: the response is in
the equations of `Gk.Proofs.SchedEq`.
-/
import Gk.World
import Gk.Proofs.HookAct
import Gk.Proofs.Sched
namespace Gk
namespace WP

/-- the task copy a program counter carries -/
def heldPc : Pc → Option Task
  | .s_nextSched t | .d_wait t _ | .d_mark t _ | .d_get t | .r_getById t => some t
  | _ => none

/-- control states in which the scheduler may be remembering an announced task (`lastTask`) -/
def mayRemember : Pc → Bool
  | .idle | .s_lastErr0 | .s_stop | .s_start | .s_lastErr1 | .r_stop | .r_start | .r_lastErr
  | .r_markDone .. => true
  | _ => false

def isDispatchErr : SS → Bool
  | .dispatchErr .. => true
  | _ => false

/-- control states in which the scheduler holds neither a task nor an outcome -/
def bare : Pc → Bool
  | .s_lastErr0 | .s_stop | .s_start | .s_lastErr1 | .s_select | .s_getNext | .r_stop | .r_start
  | .r_lastErr => true
  | _ => false

/-- returned states that carry neither a task nor an outcome -/
def plainRet : SS → Bool
  | .dispatchErr .. | .taskDone .. => false
  | _ => true

theorem bare_held {p : Pc} (h : bare p = true) : heldPc p = none := by
  cases p <;> first | rfl | cases h

theorem held_mr {p : Pc} {t : Task} (h : heldPc p = some t) : mayRemember p = false := by
  cases p <;> simp [heldPc] at h <;> rfl

theorem bare_ne_idle {p : Pc} (h : bare p = true) : p ≠ .idle := by rintro rfl; cases h

theorem plainRet_derr {s : SS} (h : plainRet s = true) : isDispatchErr s = false := by
  cases s <;> first | rfl | cases h

/-- `MarkAsDone(id, o)` is about to be called -/
def AtMD (w : World) (id : String) (o : Outcome) : Prop := w.pc = .s_markDone id o ∨ w.pc = .r_markDone id o

inductive WStep (w : World) : Act → World → Prop
  /-- a disabled action, or an action that only sets `stuck` -/
  | stuck (a : Act) : WStep w a { w with stuck := true }
  | cancelCtx : WStep w (.sched .cancelCtx) { w with ctxDone := true }
  /-- `Step` begins; `Retry` of a timer error begins -/
  | begin (a : SAct) (p : Pc) (hpc : w.pc = .idle) (hp : bare p = true) (hmr : mayRemember p = true)
      (ha : a = .beginStep ∨ (a = .beginRetry ∧ ∃ e, w.ret = .timerUpdateError e)) :
      WStep w (.sched a) { w with ctxDone := false, pc := p }
  /-- moves between bare control states; the hook / timer may be touched -/
  | quiet (a : SAct) (o' : Obs) (p : Pc) (g : Bool)
      (ho : o'.repo = w.obs.repo) (hn : o'.clock.now = w.obs.clock.now)
      (hfrom : bare w.pc = true) (hp : bare p = true)
      (hmr : mayRemember p = true ∨ w.lastTask = none ∨ mayRemember w.pc = false) :
      WStep w (.sched a) { w with obs := o', pc := p, getNextErr := g }
  /-- the prologue of `Step` finds the remembered task and goes on to dispatch it -/
  | prologue (a : SAct) (t : Task) (hl : w.lastTask = some t)
      (hfrom : w.pc = .s_lastErr0 ∨ w.pc = .s_lastErr1) :
      WStep w (.sched a) { w with getNextErr := false, lastTask := none, pc := .d_wait t false }
  /-- `Step` / `Retry` return a state that carries nothing, no repository write -/
  | fin (a : SAct) (s : SS) (lt : Option Task) (g : Bool) (hlt : lt = w.lastTask ∨ lt = none)
      (hfrom : bare w.pc = true ∨ ∃ t, w.pc = .s_nextSched t) (hs : plainRet s = true) :
      WStep w (.sched a) { w with lastTask := lt, getNextErr := g, ret := s, pc := .idle }
  /-- `MarkAsDone` fails before reaching the repository: the outcome is returned for `Retry` -/
  | finDone (f : Fault) (id : String) (o : Outcome) (e : Err)
      (hpc : AtMD w id o) :
      WStep w (.sched (.markDone f)) { w with ret := .taskDone id o (some e), pc := .idle }
  /-- the result branch of `Step` receives a completion -/
  | res (id : String) (o : Outcome) (x : String) (p : Pc) (s : SS)
      (hpc : w.pc = .s_select)
      (hfind : w.completed.find? (·.1 == id) = some (x, o))
      (hps : (p = .idle ∧ s = .taskDone id o none ∧ o = .ctxCanceled) ∨
             (p = .s_markDone id o ∧ s = w.ret ∧ o ≠ .ctxCanceled)) :
      WStep w (.sched (.selResult id))
        { w with completed := w.completed.filter (·.1 != id), reported := w.reported ++ [(id, o)],
                 ret := s, pc := p }
  | getNext (t : Task) (hpc : w.pc = .s_getNext) (hg : w.obs.repo.getNext = some t) :
      WStep w (.sched (.getNext .none)) { w with pc := .s_nextSched t }
  /-- `NextTask(t)` is announced: the due check passed -/
  | announce (t : Task) (hpc : w.pc = .s_nextSched t)
      (hdue : w.fix.dueCheck = true → t.scheduledAt ≤ w.obs.clock.now) :
      WStep w (.sched .nextScheduled)
        { w with lastTask := some t, getNextErr := false, ret := .nextTask (some t) none, pc := .idle }
  /-- `MarkAsDone` reached the repository (`Step`'s result branch or `Retry`) -/
  | markDone (f : Fault) (id : String) (o : Outcome) (s : SS)
      (hpc : AtMD w id o)
      (hs : s = .zero ∨ ∃ e, s = .taskDone id o e) :
      WStep w (.sched (.markDone f))
        { w with obs := { w.obs with repo :=
                   (Repo.step {} w.obs.repo w.obs.clock.now (.done id (World.outcomeErr o))).1 },
                 ret := s, pc := .idle }
  /-- `dispatchTask` / `Retry` fail before the work function is started, no repository write -/
  | derr (a : SAct) (t : Task) (e : Err) (g : Bool) (hpc : heldPc w.pc = some t) (hns : w.pc ≠ .s_nextSched t) :
      WStep w (.sched a) { w with ret := .dispatchErr t e, pc := .idle, getNextErr := g }
  | waitGet (t : Task) (hpc : w.pc = .d_wait t true) :
      WStep w (.sched (.waitWorker true)) { w with pc := .d_get t }
  | waitMark (t : Task) (hpc : w.pc = .d_wait t false) :
      WStep w (.sched (.waitWorker true)) { w with pc := .d_mark t false }
  /-- `MarkAsDispatched` reached the repository and refused / failed after taking effect -/
  | markErr (f : Fault) (hf : Option Err) (t : Task) (r : Bool) (e : Err) (hpc : w.pc = .d_mark t r)
      (hnb : f ≠ .before) (hcd : w.ctxDone = false) :
      WStep w (.sched (.markDispatched f hf))
        { w with obs := (w.obs.step (.dispatch t.id) hf).1, ret := .dispatchErr t e, pc := .idle,
                 getNextErr := true }
  | markOk (f : Fault) (hf : Option Err) (t : Task) (r : Bool) (hpc : w.pc = .d_mark t r)
      (hnb : f ≠ .before) (hcd : w.ctxDone = false)
      (hok : (w.obs.step (.dispatch t.id) hf).2.isErr = false) :
      WStep w (.sched (.markDispatched f hf))
        { w with obs := (w.obs.step (.dispatch t.id) hf).1, pc := .d_get t }
  /-- D21's trigger: `MarkAsDispatched` reached the CORE repository (which applied or refused it) and was reported
  as failed; the observable wrapper's hook was not called: only the store changes, neither hook nor clock -/
  | markCore (t : Task) (r : Bool) (e : Err) (hpc : w.pc = .d_mark t r) (hcd : w.ctxDone = false) :
      WStep w (.sched .markDispatchedCore)
        { w with obs := { w.obs with repo := (Repo.step {} w.obs.repo w.obs.clock.now (.dispatch t.id)).1 },
                 ret := .dispatchErr t e, pc := .idle, getNextErr := true }
  /-- the work function is started -/
  | start (t cur : Task) (hpc : w.pc = .d_get t) (hl : w.obs.repo.lookup t.id = some cur) :
      WStep w (.sched (.getById .none))
        { w with running := w.running ++ [(t.id, cur)],
                 log := w.log ++ [({ id := t.id, at_ := w.obs.clock.now, task := cur } : RunEntry)],
                 ret := .dispatched t.id, pc := .idle }
  | retryDispatch (t : Task) (e : Err) (hpc : w.pc = .idle) (hr : w.ret = .dispatchErr t e) :
      WStep w (.sched .beginRetry) { w with ctxDone := false, pc := .r_getById t }
  /-- `Retry` picks the outcome up again -/
  | retryDone (id : String) (o : Outcome) (e : Option Err) (hpc : w.pc = .idle) (hr : w.ret = .taskDone id o e) :
      WStep w (.sched .beginRetry) { w with ctxDone := false, pc := .r_markDone id o }
  /-- `Retry` of a state that needs none -/
  | retryNoop (hpc : w.pc = .idle) (hr : plainRet w.ret = true) :
      WStep w (.sched .beginRetry) { w with ctxDone := false, ret := .zero, pc := .idle }
  | refetchNone (t : Task) (hpc : w.pc = .r_getById t) (hl : w.obs.repo.lookup t.id = none) :
      WStep w (.sched (.getById .none)) { w with pc := .d_wait World.zeroTask (!w.fix.retryMarks) }
  | refetch (t cur : Task) (hpc : w.pc = .r_getById t) (hl : w.obs.repo.lookup t.id = some cur) :
      WStep w (.sched (.getById .none))
        { w with pc := .d_wait t (if w.fix.retryMarks then cur.state == .dispatched else true) }
  | user (op : Obs.OOp) (hf : Option Err) : WStep w (.user op hf) { w with obs := (w.obs.step op hf).1 }
  | advance (t : Time) :
      WStep w (.advance t) { w with obs := { w.obs with clock := w.obs.clock.advance t } }
  | complete (id : String) (o : Outcome) (x : String × Task)
      (hfind : w.running.find? (·.1 == id) = some x) :
      WStep w (.complete id o)
        { w with running := w.running.filter (·.1 != id), completed := w.completed ++ [(id, o)] }

theorem WStep.of_sched {w w' : World} {a : SAct} (hs : w.Sched a w') : WStep w (.sched a) w' := by
  have none_of {f : Fault} (h : ¬ (f != .none) = true) : f = .none := Decidable.of_not_not (mt bne_iff_ne.mpr h)
  have nb {f : Fault} (h : ¬ (f == .before) = true) : f ≠ .before := mt beq_iff_eq.mpr h
  cases hs with
  | stuck => exact .stuck _
  | cancelCtx => exact .cancelCtx
  | stepRestart hpc | step hpc => exact .begin _ _ hpc rfl rfl (.inl rfl)
  | retryTimer hpc hr => exact .begin _ _ hpc rfl rfl (.inr ⟨rfl, _, hr⟩)
  | lastErr0Err hpc => exact .quiet _ w.obs _ w.getNextErr rfl rfl (by rw [hpc]; rfl) rfl (.inl rfl)
  | stop hpc | rStop hpc =>
    exact .quiet _ _ _ w.getNextErr rfl (Obs.stopTimer_now _) (by rw [hpc]; rfl) rfl (.inl rfl)
  | start _ hpc | rStart _ hpc =>
    exact .quiet _ _ _ w.getNextErr (Obs.startTimer_repo _ _) (Obs.startTimer_now _ _) (by rw [hpc]; rfl) rfl
      (.inl rfl)
  | lastErr0Task hpc _ hl => exact .prologue _ _ hl (.inl hpc)
  | lastErr1Task hpc _ hl => exact .prologue _ _ hl (.inr hpc)
  | lastErr0Select hpc _ hl | lastErr1Select hpc _ hl =>
    exact .quiet _ w.obs _ false rfl rfl (by rw [hpc]; rfl) rfl (.inr (.inl hl))
  | selTimer hpc =>
    exact .quiet _ _ _ w.getNextErr rfl rfl (by rw [hpc]; rfl) rfl (.inr (.inr (by rw [hpc]; rfl)))
  | lastErr1Err hpc | selCtx hpc | rLastErrErr hpc | rLastErrOk hpc =>
    exact .fin _ _ w.lastTask w.getNextErr (.inl rfl) (.inl (by rw [hpc]; rfl)) rfl
  | getNextFault hpc | getNextNone hpc => exact .fin _ _ none true (.inr rfl) (.inl (by rw [hpc]; rfl)) rfl
  | changed hpc => exact .fin _ _ w.lastTask _ (.inl rfl) (.inr ⟨_, hpc⟩) rfl
  | selCancelled hpc hfind ho => exact .res _ _ _ .idle _ hpc hfind (.inl ⟨rfl, rfl, by simpa using ho⟩)
  | selResult hpc hfind ho => exact .res _ _ _ _ w.ret hpc hfind (.inr ⟨rfl, rfl, by simpa using ho⟩)
  | getNextSome hpc hf hn => cases none_of hf; exact .getNext _ hpc hn
  | announce hpc hc =>
    refine .announce _ hpc fun hd => ?_
    simp only [hd, Bool.not_true, Bool.false_or, Bool.or_eq_true, Bool.not_eq_true', not_or,
      Bool.not_eq_true, decide_eq_false_iff_not, Decidable.not_not] at hc
    exact hc.2
  | doneBefore hpc | doneCtx hpc => exact .finDone _ _ _ _ (.inl hpc)
  | redoneBefore hpc | redoneCtx hpc => exact .finDone _ _ _ _ (.inr hpc)
  | done hpc => exact .markDone _ _ _ _ (.inl hpc) (.inr ⟨_, rfl⟩)
  | redoneErr hpc => exact .markDone _ _ _ _ (.inr hpc) (.inr ⟨_, rfl⟩)
  | redone hpc => exact .markDone _ _ _ _ (.inr hpc) (.inl rfl)
  | noWorker hpc | markBefore _ hpc | markCtx _ hpc | coreCtx hpc | getFault hpc | getCtx hpc | getNone hpc =>
    exact .derr _ _ _ true (by rw [hpc]; rfl) (by rw [hpc]; nofun)
  | refetchFault hpc | refetchCtx hpc =>
    exact .derr _ _ _ w.getNextErr (by rw [hpc]; rfl) (by rw [hpc]; nofun)
  | waitRetry hpc => exact .waitGet _ hpc
  | waitMark hpc => exact .waitMark _ hpc
  | markErr hpc hf hc => exact .markErr _ _ _ _ _ hpc (nb hf) (Bool.not_eq_true _ ▸ hc)
  | markOk hpc hf hc he => exact .markOk _ _ _ _ hpc (nb hf) (Bool.not_eq_true _ ▸ hc) (World.faultErr_none he)
  | core hpc hc => exact .markCore _ _ _ hpc (Bool.not_eq_true _ ▸ hc)
  | run hpc hf _ hl => cases none_of hf; exact .start _ _ hpc hl
  | retryDispatch hpc hr => exact .retryDispatch _ _ hpc hr
  | retryDone hpc hr => exact .retryDone _ _ _ hpc hr
  | retryZero hpc h1 h2 h3 =>
    refine .retryNoop hpc ?_
    cases hr : w.ret <;> first | rfl | exact (h1 _ hr).elim | exact (h2 _ _ hr).elim | exact (h3 _ _ _ hr).elim
  | refetchNone hpc hf _ hl => cases none_of hf; exact .refetchNone _ hpc hl
  | refetch hpc hf _ hl => cases none_of hf; exact .refetch _ _ hpc hl

theorem sched_spec (w : World) (a : SAct) : WStep w (.sched a) (w.sched a).1 :=
  .of_sched (World.sched_spec w a)

theorem step_spec (w : World) (a : Act) : WStep w a (w.step a) := by
  cases a with
  | sched a => exact sched_spec w a
  | user op hf => exact .user op hf
  | advance t => exact .advance t
  | complete id o =>
    simp only [World.step]
    split
    · exact .stuck _
    · rename_i x hfind
      exact .complete id o x hfind

theorem fix_wstep {w w' : World} {a : Act} (hs : WStep w a w') : w'.fix = w.fix := by
  cases hs <;> rfl

theorem start_wstep {w w' : World} {a : Act} (hs : WStep w a w') :
    w'.log = w.log ∨
    ∃ t cur, w.pc = .d_get t ∧ a = .sched (.getById .none) ∧ w.obs.repo.lookup t.id = some cur ∧
      w' = { w with running := w.running ++ [(t.id, cur)],
                    log := w.log ++ [({ id := t.id, at_ := w.obs.clock.now, task := cur } : RunEntry)],
                    ret := .dispatched t.id, pc := .idle } := by
  cases hs with
  | start t cur hpc hl => exact .inr ⟨t, cur, hpc, rfl, hl, rfl⟩
  | _ => exact .inl rfl

theorem res_wstep {w w' : World} {a : Act} (hs : WStep w a w') :
    w'.reported = w.reported ∨
    ∃ id o x p s, w.completed.find? (·.1 == id) = some (x, o) ∧
      ((p = .idle ∧ s = .taskDone id o none ∧ o = .ctxCanceled) ∨
       (p = .s_markDone id o ∧ s = w.ret ∧ o ≠ .ctxCanceled)) ∧
      w' = { w with completed := w.completed.filter (·.1 != id), reported := w.reported ++ [(id, o)],
                    ret := s, pc := p } := by
  cases hs with
  | res id o x p s hpc hfind hps => exact .inr ⟨id, o, x, p, s, hfind, hps, rfl⟩
  | _ => exact .inl rfl

theorem log_wstep {w w' : World} {a : Act} (hs : WStep w a w') :
    w'.log = w.log ∨
    ∃ t cur, w.pc = .d_get t ∧ a = .sched (.getById .none) ∧ w.obs.repo.lookup t.id = some cur ∧
      w'.log = w.log ++ [({ id := t.id, at_ := w.obs.clock.now, task := cur } : RunEntry)] :=
  (start_wstep hs).imp_right fun ⟨t, cur, h1, h2, h3, h4⟩ => ⟨t, cur, h1, h2, h3, h4 ▸ rfl⟩

theorem log_mono_wstep {w w' : World} {a : Act} (hs : WStep w a w') : ∀ e ∈ w.log, e ∈ w'.log := by
  intro e he
  rcases log_wstep hs with h | ⟨_, _, _, _, _, h⟩ <;> rw [h]
  · exact he
  · exact List.mem_append_left _ he

end WP
end Gk
