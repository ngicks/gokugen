/-
The linearizability checker (C10): `search` is sound and complete for "a permutation that respects real time and
replays", atomic critical sections respect real time, `runAtomic` replays; and, about `replays` over the lifecycle
operations of `Repo.step`: a row that has left `scheduled` stays so (`Later`, `Left`), hence no two `Cancel` /
`MarkAsDispatched` of one task both succeed in a replay (`replays_no_conflict`).
-/
import Gk.Lin
import Gk.Proofs.RepoStep
namespace Gk.Lin

theorem cons_eraseIdx_perm {α} {l : List α} {i : Nat} {a : α} (h : l[i]? = some a) :
    (a :: l.eraseIdx i).Perm l := by
  obtain ⟨hi, rfl⟩ := List.getElem?_eq_some_iff.mp h
  rw [List.eraseIdx_eq_take_drop_succ]
  refine List.perm_middle.symm.trans (.of_eq ?_)
  rw [List.getElem_cons_drop, List.take_append_drop]

def notBefore (o p : LOp) : Prop := ¬ p.ret < o.call

theorem respectsRealTime_cons {o : LOp} {rest : List LOp} :
    respectsRealTime (o :: rest) = true ↔
      (∀ p ∈ rest, notBefore o p) ∧ respectsRealTime rest = true := by
  simp [respectsRealTime, notBefore]

/-- `respectsRealTime` is the pairwise statement of the informal definition. -/
theorem respectsRealTime_iff_pairwise {σ : List LOp} :
    respectsRealTime σ = true ↔ σ.Pairwise notBefore := by
  induction σ with
  | nil => simp [respectsRealTime]
  | cons o rest ih => rw [respectsRealTime_cons, List.pairwise_cons, ih]

theorem respectsRealTime_iff_getElem {σ : List LOp} :
    respectsRealTime σ = true ↔
      ∀ (i j : Nat) (_ : i < σ.length) (_ : j < σ.length), i < j → ¬ σ[j].ret < σ[i].call := by
  rw [respectsRealTime_iff_pairwise, List.pairwise_iff_getElem]
  rfl

/-- `minimalAt ops i` depends only on the element at `i` and on the *set* of the other elements. -/
theorem minimalAt_iff {ops : List LOp} {i : Nat} :
    minimalAt ops i = true ↔
      ∃ o, ops[i]? = some o ∧ ∀ p ∈ ops.eraseIdx i, notBefore o p := by
  unfold minimalAt
  cases hi : ops[i]? with
  | none => simp
  | some o =>
    simp only [List.all_eq_true, Bool.or_eq_true, beq_iff_eq, Bool.not_eq_true',
      decide_eq_false_iff_not, Option.some.injEq, exists_eq_left', notBefore,
      List.mem_eraseIdx_iff_getElem?]
    constructor
    · rintro h p ⟨j, hj, hp⟩
      rcases h (p, j) (List.mem_zipIdx_iff_getElem?.mpr hp) with h | h
      · exact absurd h hj
      · exact h
    · rintro h ⟨p, j⟩ hm
      have hp := List.mem_zipIdx_iff_getElem?.mp hm
      by_cases hj : j = i
      · exact .inl hj
      · exact .inr (h p ⟨j, hj, hp⟩)

theorem search_succ_iff {same : Op → Out → Out → Bool} {fuel : Nat} {r : Repo} {ops : List LOp} :
    search same (fuel + 1) r ops = true ↔
      ops = [] ∨ ∃ i o, ops[i]? = some o ∧ minimalAt ops i = true ∧
        same o.op o.out (Repo.step {} r o.now o.op).2 = true ∧
        search same fuel (Repo.step {} r o.now o.op).1 (ops.eraseIdx i) = true := by
  simp only [search, Bool.or_eq_true, List.isEmpty_iff, List.any_eq_true, List.mem_range]
  constructor
  · rintro (h | ⟨i, _, h⟩)
    · exact .inl h
    · right
      cases hi : ops[i]? with
      | none => simp [hi] at h
      | some o =>
        simp only [hi, Bool.and_eq_true] at h
        exact ⟨i, o, hi, h.1, h.2.1, h.2.2⟩
  · rintro (h | ⟨i, o, hi, hm, hs, hr⟩)
    · exact .inl h
    · right
      refine ⟨i, (List.getElem?_eq_some_iff.mp hi).1, ?_⟩
      simp only [hi, Bool.and_eq_true]
      exact ⟨hm, hs, hr⟩

theorem replays_cons {same : Op → Out → Out → Bool} {r : Repo} {o : LOp} {rest : List LOp} :
    replays same r (o :: rest) = true ↔
      same o.op o.out (Repo.step {} r o.now o.op).2 = true ∧
        replays same (Repo.step {} r o.now o.op).1 rest = true := by
  simp [replays]

theorem search_sound {same : Op → Out → Out → Bool} :
    ∀ (fuel : Nat) (r : Repo) (ops : List LOp), search same fuel r ops = true →
      ∃ σ : List LOp, σ.Perm ops ∧ respectsRealTime σ = true ∧ replays same r σ = true
  | 0, r, ops, h => by
    simp only [search, List.isEmpty_iff] at h
    subst h
    exact ⟨[], List.Perm.refl _, rfl, rfl⟩
  | fuel + 1, r, ops, h => by
    rcases search_succ_iff.mp h with h | ⟨i, o, hi, hm, hs, hr⟩
    · subst h
      exact ⟨[], List.Perm.refl _, rfl, rfl⟩
    · obtain ⟨σ, hp, hrt, hrep⟩ := search_sound fuel _ _ hr
      obtain ⟨o', hi', hmin⟩ := minimalAt_iff.mp hm
      rw [hi] at hi'
      cases hi'
      refine ⟨o :: σ, (hp.cons o).trans (cons_eraseIdx_perm hi), ?_, ?_⟩
      · rw [respectsRealTime_cons]
        exact ⟨fun p hp' => hmin p (hp.mem_iff.mp hp'), hrt⟩
      · rw [replays_cons]
        exact ⟨hs, hrep⟩

theorem search_complete {same : Op → Out → Out → Bool} :
    ∀ (σ : List LOp) (r : Repo) (ops : List LOp), σ.Perm ops → respectsRealTime σ = true →
      replays same r σ = true → search same σ.length r ops = true
  | [], r, ops, hp, _, _ => by
    have := hp.symm.eq_nil
    subst this
    rfl
  | o :: σ, r, ops, hp, hrt, hrep => by
    obtain ⟨i, hi⟩ := List.mem_iff_getElem?.mp (hp.mem_iff.mp List.mem_cons_self)
    have hp' : (ops.eraseIdx i).Perm σ := ((cons_eraseIdx_perm hi).trans hp.symm).cons_inv
    rw [respectsRealTime_cons] at hrt
    rw [replays_cons] at hrep
    rw [List.length_cons, search_succ_iff]
    refine .inr ⟨i, o, hi, ?_, hrep.1, ?_⟩
    · exact minimalAt_iff.mpr ⟨o, hi, fun p hp'' => hrt.1 p (hp'.mem_iff.mp hp'')⟩
    · exact search_complete σ _ _ hp'.symm hrt.2 hrep.2

/-- The critical sections of the operations of `σ` ran in list order, each inside the interval of
its operation: `τ k` is the instant of the `k`-th critical section. -/
def AtomicSections (σ : List LOp) : Prop :=
  ∃ τ : Nat → Nat, (∀ i j, i < j → j < σ.length → τ i < τ j) ∧
    ∀ (k : Nat) (h : k < σ.length), σ[k].call ≤ τ k ∧ τ k ≤ σ[k].ret

/-- The same with the instants given as a list zipped with the operations. -/
def AtomicSectionsL (σ : List LOp) (instants : List Nat) : Prop :=
  instants.length = σ.length ∧ instants.Pairwise (· < ·) ∧
    ∀ x ∈ σ.zip instants, x.1.call ≤ x.2 ∧ x.2 ≤ x.1.ret

theorem AtomicSectionsL.toFun {σ : List LOp} {instants : List Nat}
    (h : AtomicSectionsL σ instants) : AtomicSections σ := by
  obtain ⟨hlen, hpw, hin⟩ := h
  refine ⟨fun k => instants[k]?.getD 0, ?_, ?_⟩
  · intro i j hij hj
    have hj' : j < instants.length := hlen ▸ hj
    have hi' : i < instants.length := Nat.lt_trans hij hj'
    simp only [List.getElem?_eq_getElem hi', List.getElem?_eq_getElem hj', Option.getD_some]
    exact List.pairwise_iff_getElem.mp hpw i j hi' hj' hij
  · intro k hk
    have hk' : k < instants.length := hlen ▸ hk
    simp only [List.getElem?_eq_getElem hk', Option.getD_some]
    apply hin (σ[k], instants[k])
    rw [List.mem_iff_getElem]
    exact ⟨k, by rw [List.length_zip]; omega, by simp⟩

theorem AtomicSections.respectsRealTime {σ : List LOp} (h : AtomicSections σ) :
    respectsRealTime σ = true := by
  obtain ⟨τ, hmono, hin⟩ := h
  rw [respectsRealTime_iff_getElem]
  intro i j hi hj hij hlt
  have h1 := (hin j hj).2
  have h2 := (hin i hi).1
  have h3 := hmono i j hij hj
  omega

structure Req where
  call : Nat
  ret : Nat
  now : Time
  op : Op

def runAtomic : Repo → List Req → List LOp
  | _, [] => []
  | r, q :: qs =>
    let (r', out) := Repo.step {} r q.now q.op
    { call := q.call, ret := q.ret, now := q.now, op := q.op, out := out } :: runAtomic r' qs

theorem replays_runAtomic : ∀ (r : Repo) (qs : List Req), replays sameExact r (runAtomic r qs) = true
  | _, [] => rfl
  | r, q :: qs => by
    simp only [runAtomic]
    rw [replays_cons]
    exact ⟨by simp [sameExact], replays_runAtomic _ qs⟩

theorem length_runAtomic : ∀ (r : Repo) (qs : List Req), (runAtomic r qs).length = qs.length
  | _, [] => rfl
  | r, q :: qs => by simp [runAtomic, length_runAtomic _ qs]

theorem getElem_runAtomic_call_ret : ∀ (r : Repo) (qs : List Req) (k : Nat)
    (h : k < (runAtomic r qs).length) (h' : k < qs.length),
    (runAtomic r qs)[k].call = qs[k].call ∧ (runAtomic r qs)[k].ret = qs[k].ret
  | _, [], _, _, h' => by simp at h'
  | r, q :: qs, 0, _, _ => by simp [runAtomic]
  | r, q :: qs, k + 1, h, h' => by
    simp only [runAtomic, List.getElem_cons_succ]
    exact getElem_runAtomic_call_ret _ qs k _ _

open Gk in
theorem lookup_replace {r : Repo} {id : String} {t : Task} {f : Task → Task}
    (hl : r.lookup id = some t) (hf : ∀ t, (f t).id = t.id) :
    (r.replace id f).lookup id = some (f t) := by
  rw [Repo.lookup_replace r id hf id, if_pos rfl, hl]; rfl

end Gk.Lin

namespace Gk.Ent
open Gk.Lin

/-- The two are the same `match`: a hypothesis in either form is accepted where the other is asked for. -/
theorem lifecycle_eq (op : Op) : lifecycle op = op.isLifecycle := rfl

/-- The row `id` is stored and has left `scheduled`. -/
def Left (r : Repo) (id : String) : Prop := ∃ t, r.lookup id = some t ∧ t.state ≠ .scheduled

theorem Left.guard {r : Repo} {id : String} (h : Left r id) : guard r id .scheduled = false := by
  obtain ⟨t, ht, hns⟩ := h
  rw [guard_eq_false, ht]
  rintro _ ⟨⟩; exact hns

theorem Left.step {r : Repo} {id : String} (h : Left r id) (now : Time) {op : Op} (hl : lifecycle op = true) :
    Left (Repo.step {} r now op).1 id := by
  obtain ⟨t, ht, hns⟩ := h
  obtain ⟨t', ht', hs⟩ := lookup_step_state ht now hl
  exact ⟨t', ht', (hs hns).ne_scheduled hns⟩

theorem Marked_empty : Marked {} := fun _ _ h => by cases h

theorem errKindMutate_ne_none (t : Task) : errKindMutate t ≠ none ↔
    (t.doneAt.isSome || t.cancelledAt.isSome || t.dispatchedAt.isSome) = true := by
  simp only [errKindMutate, errKind]
  cases t.doneAt.isSome <;> cases t.cancelledAt.isSome <;> cases t.dispatchedAt.isSome <;> simp

theorem Marked_step {r : Repo} (h : Marked r) (now : Time) {op : Op} (hl : lifecycle op = true) :
    Marked (Repo.step {} r now op).1 := by
  intro id t' ht'
  rcases step_lookup_rev {} r now op hl ht' with ⟨-, p, -, rfl⟩ | ⟨t, ho, rfl | ⟨_, f, he, hs, rfl⟩⟩
  · exact fun hs => absurd (Param.toTask_state ..) hs
  · exact h id _ ho
  · cases he with
    | update => exact fun hs' => absurd hs hs'
    | done _ e => intro _; simp [errKindMutate_ne_none]
    | _ => intro _; simp [errKindMutate_ne_none, setCancel, setDispatch]

def CD (id : String) (op : Op) : Prop := op = .cancel id ∨ op = .dispatch id

theorem CD.guard_of_ok {r : Repo} {id : String} (hm : Marked r) {now : Time} {op : Op} (hop : CD id op)
    (hok : (Repo.step {} r now op).2 = .ok) : guard r id .scheduled = true := by
  rcases hop with rfl | rfl <;> exact (mutate_ok_iff hm id _).mp hok

theorem cd_ok_after {r : Repo} {id : String} (hm : Marked r) (now : Time) {op : Op} (hop : CD id op)
    (hok : (Repo.step {} r now op).2 = .ok) : Left (Repo.step {} r now op).1 id := by
  obtain ⟨t, hl, hs⟩ := guard_eq_true.mp (hop.guard_of_ok hm hok)
  rcases hop with rfl | rfl
  · exact ⟨_, (Edit.cancel id).lookup_hit {} hl hs, by simp⟩
  · exact ⟨_, (Edit.dispatch id).lookup_hit {} hl hs, by simp⟩

/-- Two calls of one replay: not both a successful `Cancel` / `MarkAsDispatched` of the same task. -/
def NoConflict (a b : LOp) : Prop :=
  ∀ id, CD id a.op → CD id b.op → ¬ (a.out = .ok ∧ b.out = .ok)

theorem NoConflict.symm {a b : LOp} (h : NoConflict a b) : NoConflict b a :=
  fun id hb ha hh => h id ha hb ⟨hh.2, hh.1⟩

theorem sameExact_eq {op : Op} {a b : Out} (h : sameExact op a b = true) : a = b := by
  simpa [sameExact] using h

/-- once the row has left `scheduled`, no later `Cancel` / `MarkAsDispatched` of it succeeds -/
theorem replays_no_second_ok {id : String} : ∀ (σ : List LOp) (r : Repo), Marked r → Left r id →
    (∀ o ∈ σ, lifecycle o.op = true) → replays sameExact r σ = true →
    ∀ o ∈ σ, CD id o.op → o.out ≠ .ok
  | [], _, _, _, _, _ => fun _ h => by cases h
  | x :: σ, r, hm, h, hl, hrep => by
    rw [replays_cons] at hrep
    have hx := hl x List.mem_cons_self
    intro o ho hcd
    rcases List.mem_cons.mp ho with rfl | ho
    · rw [sameExact_eq hrep.1]
      exact fun hok => Bool.false_ne_true (h.guard ▸ hcd.guard_of_ok hm hok)
    · exact replays_no_second_ok σ _ (Marked_step hm _ hx) (h.step _ hx)
        (fun o ho => hl o (List.mem_cons_of_mem _ ho)) hrep.2 o ho hcd

theorem replays_no_conflict : ∀ (σ : List LOp) (r : Repo), Marked r →
    (∀ o ∈ σ, lifecycle o.op = true) → replays sameExact r σ = true → σ.Pairwise NoConflict
  | [], _, _, _, _ => List.Pairwise.nil
  | x :: σ, r, hm, hl, hrep => by
    rw [replays_cons] at hrep
    have hx := hl x List.mem_cons_self
    have hl' : ∀ o ∈ σ, lifecycle o.op = true := fun o ho => hl o (List.mem_cons_of_mem _ ho)
    rw [List.pairwise_cons]
    refine ⟨?_, replays_no_conflict σ _ (Marked_step hm _ hx) hl' hrep.2⟩
    intro b hb id hxa hba hh
    have hok : (Repo.step {} r x.now x.op).2 = .ok := by rw [← sameExact_eq hrep.1]; exact hh.1
    exact replays_no_second_ok σ _ (Marked_step hm _ hx) (cd_ok_after hm x.now hxa hok) hl' hrep.2 b hb hba hh.2

end Gk.Ent
