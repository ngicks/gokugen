/-
C20 (recovery, the *eventual* half) — what ONE round of the fair fault-free driver (`Live.driveRound`)
does to a world that is between two calls and holds a retryable error state: each kind of `Retry` round as an
equation (`round_retry_*`), with the exhaustive case splits `round_retry_dispatchErr_total` and
`round_retry_done_total`; and of ANY world that satisfies the invariants and is between two calls: after one round
every task stored as `dispatched` has had its work function started (`round_none_lost`) and the state returned never
asks for a `Retry` (`round_not_retryable`). `ConsInv`, the C12 record consistency along scripts, is needed to know
that a cancelled task is *refused*.
-/
import Gk.Proofs.WorldProgress
namespace Gk.Live
open Gk

/-- the world after a `Retry` that fetched `cur` and started its work function without touching the
repository -/
def afterRetryRun (w : World) (t cur : Task) : World :=
  { w with ctxDone := false, pc := .idle,
           running := w.running ++ [(t.id, cur)],
           log := w.log ++ [{ id := t.id, at_ := w.obs.clock.now, task := cur }],
           ret := .dispatched t.id }

/-- `Retry(DispatchErr t e)`, the failed attempt HAD marked the task (`Fault.after` on
`MarkAsDispatched`, or a failure after the mark): `GetById` sees it dispatched, `MarkAsDispatched` is
skipped, the second `GetById` fetches the record and the work function is started. -/
theorem round_retry_skip {w : World} {t u : Task} {e : Err} (hpc : w.pc = .idle)
    (hfix : w.fix.retryMarks = true) (hr : w.ret = .dispatchErr t e)
    (hq : World.isDefError e = false)
    (hu : w.obs.repo.lookup t.id = some u) (hs : u.state = .dispatched) :
    driveRound w = afterRetryRun w t u := by
  simp [driveRound, drive, autoAct, hpc, retryable, hq, World.step, World.sched_beginRetry_disp hpc hr,
    World.sched_rget (t := t), World.sched_wait (t := t) (retry := true), World.sched_get (t := t), hr, hu, hs, hfix,
    World.finish, afterRetryRun]

/-- the world after a `Retry` that marked `t`, fetched the dispatched record `cur` and started it -/
def afterRetryMark (w : World) (t cur : Task) : World :=
  { w with ctxDone := false, pc := .idle,
           obs := (w.obs.step (.dispatch t.id) none).1,
           running := w.running ++ [(t.id, cur)],
           log := w.log ++ [{ id := t.id, at_ := w.obs.clock.now, task := cur }],
           ret := .dispatched t.id }

/-- `Retry(DispatchErr t e)`, the failed attempt had NOT marked the task (no worker before the context
ended, `Fault.before` on `MarkAsDispatched`, ...): `GetById` sees it scheduled, so (repaired D4 path)
the task is marked now, fetched as dispatched and started. -/
theorem round_retry_mark {w : World} {t u : Task} {e : Err} (hpc : w.pc = .idle)
    (hfix : w.fix.retryMarks = true) (hr : w.ret = .dispatchErr t e)
    (hq : World.isDefError e = false)
    (hu : w.obs.repo.lookup t.id = some u) (hs : u.state = .scheduled) :
    driveRound w = afterRetryMark w t
      { u with state := .dispatched, dispatchedAt := some (normalize w.obs.clock.now) } := by
  have ⟨hd1, hd2⟩ := dispatch_step_scheduled w.obs t.id none hu hs
  have hnow : (w.obs.step (.dispatch t.id) none).1.clock.now = w.obs.clock.now := step_now _ _ _ nofun
  simp [driveRound, drive, autoAct, hpc, retryable, hq, World.step, World.sched_beginRetry_disp hpc hr,
    World.sched_rget (t := t), World.sched_wait (t := t) (retry := false), World.sched_mark (t := t) (retry := false),
    World.sched_get (t := t), hr, hu, hs, hfix, hd1, hd2, World.finish, hnow, afterRetryMark]

theorem errKindMutate_isDefError {u : Task} {e' : Err} (hk : errKindMutate u = some e') :
    World.isDefError e' = true := errKind_def hk

theorem errKindMutate_cancelled {u : Task} (hs : u.state = .cancelled) (hc : u.consistent = true) :
    errKindMutate u = some .alreadyCancelled := by
  rw [(errKind_table hc).1, hs]

/-- `Retry(DispatchErr t e)`, the task has meanwhile left the states `scheduled` / `dispatched` (the
user cancelled it): `GetById` succeeds, `MarkAsDispatched` is refused with the repository's verdict
`e'` (`ErrAlreadyCancelled` for a cancelled task), and `Retry` returns `DispatchErr t e'` — a state that
is NOT retryable. Nothing runs, nothing is written. -/
theorem round_retry_refused {w : World} {t u : Task} {e e' : Err} (hpc : w.pc = .idle)
    (hfix : w.fix.retryMarks = true) (hr : w.ret = .dispatchErr t e)
    (hq : World.isDefError e = false) (hg : w.getNextErr = true)
    (hu : w.obs.repo.lookup t.id = some u) (hs : u.state ≠ .scheduled) (hs' : u.state ≠ .dispatched)
    (hk : errKindMutate u = some e') :
    driveRound w = { w with ctxDone := false, pc := .idle, ret := .dispatchErr t e' } := by
  have hd := dispatch_step_refused w.obs t.id none hu hs hk
  simp [driveRound, drive, autoAct, hpc, retryable, hq, World.step, World.sched_beginRetry_disp hpc hr,
    World.sched_rget (t := t), World.sched_wait (t := t) (retry := false), World.sched_mark (t := t) (retry := false),
    hr, hu, hs', hfix, hd, World.finishDE, World.finish, hg]

/-- `Retry(DispatchErr t e)`, the task is no longer stored (no user operation of this model removes a
task; ent's `DeleteEnded` would): `GetById` fails, the pinned code continues with the zero task, whose
`MarkAsDispatched("")` is refused with `ErrIdNotFound`: `Retry` returns `DispatchErr zeroTask
idNotFound`, NOT retryable. Nothing runs, nothing is written. -/
theorem round_retry_missing {w : World} {t : Task} {e : Err} (hpc : w.pc = .idle)
    (hfix : w.fix.retryMarks = true) (hr : w.ret = .dispatchErr t e)
    (hq : World.isDefError e = false) (hg : w.getNextErr = true)
    (hu : w.obs.repo.lookup t.id = none) (h0 : w.obs.repo.lookup "" = none) :
    driveRound w =
      { w with ctxDone := false, pc := .idle, ret := .dispatchErr World.zeroTask .idNotFound } := by
  have hd := dispatch_step_missing w.obs World.zeroTask.id none h0
  -- `d_wait`, `d_mark` with the zero task
  simp [driveRound, drive, autoAct, hpc, retryable, hq, World.step, World.sched_beginRetry_disp hpc hr,
    World.sched_rget (t := t), World.sched_wait (t := World.zeroTask) (retry := false),
    World.sched_mark (t := World.zeroTask) (retry := false), hr, hu, hfix, hd, World.finishDE, World.finish, hg]

/-- what `Retry(TaskDone id o _)` returns, given the outcome of its `MarkAsDone`: an error other than
`ErrAlreadyDone` is reported again, everything else (success, `ErrAlreadyDone`) is `Zero` -/
def doneRet (id : String) (o : Outcome) : Out → SS
  | .err e' => if e' = .alreadyDone then .zero else .taskDone id o (some e')
  | _ => .zero

/-- `Retry(TaskDone id o (some e))` with a retryable `e`, generic form: one fault-free `MarkAsDone`. -/
theorem round_retry_done_gen {w : World} {id : String} {o : Outcome} {e : Err} {r : Repo} {out : Out}
    (hpc : w.pc = .idle) (hr : w.ret = .taskDone id o (some e)) (hq : World.isDefError e = false)
    (hstep : Repo.step {} w.obs.repo w.obs.clock.now (.done id (World.outcomeErr o)) = (r, out)) :
    driveRound w = { w with ctxDone := false, pc := .idle, obs := { w.obs with repo := r },
                            ret := doneRet id o out } := by
  cases out with
  | err e' =>
    by_cases h : e' = .alreadyDone <;>
      simp [driveRound, drive, autoAct, hpc, retryable, hq, World.step, World.sched_beginRetry_done hpc hr,
        World.sched_rmarkDone (id := id) (o := o), hr, hstep, World.finish, doneRet, h]
  | _ =>
    simp [driveRound, drive, autoAct, hpc, retryable, hq, World.step, World.sched_beginRetry_done hpc hr,
      World.sched_rmarkDone (id := id) (o := o), hr, hstep, World.finish, doneRet]

theorem done_step_already (r : Repo) (now : Time) (id : String) (err : Option String) {u : Task}
    (hl : r.lookup id = some u) (hs : u.state ≠ .dispatched) (hd : u.doneAt.isSome = true) :
    Repo.step {} r now (.done id err) = (r, .err .alreadyDone) := by
  rw [step_done_eq, if_neg (by simp [Ent.guard, hl, hs]), hl]
  simp [Ent.refusal, errKindMarkAsDone, errKind, hd]

theorem done_step_missing (r : Repo) (now : Time) (id : String) (err : Option String)
    (hl : r.lookup id = none) : Repo.step {} r now (.done id err) = (r, .err .idNotFound) := by
  rw [step_done_eq, if_neg (by simp [Ent.guard, hl]), hl]
  rfl

theorem doneRecord_id (now : Time) (err : Option String) (t : Task) :
    (doneRecord now err t).id = t.id :=
  by cases err <;> rfl

/-- the world after a `Retry` that recorded the result `o` of task `id` -/
def afterRetryDone (w : World) (id : String) (o : Outcome) : World :=
  { w with ctxDone := false, pc := .idle, ret := .zero,
           obs := { w.obs with repo :=
                      w.obs.repo.replace id (doneRecord w.obs.clock.now (World.outcomeErr o)) } }

/-- `Retry(TaskDone id o (some e))`, the failed `MarkAsDone` had NOT taken effect (the task is still
stored as dispatched): the result is recorded now and `Retry` returns `Zero`. -/
theorem round_retry_done {w : World} {id : String} {o : Outcome} {e : Err} {u : Task}
    (hpc : w.pc = .idle) (hr : w.ret = .taskDone id o (some e)) (hq : World.isDefError e = false)
    (hu : w.obs.repo.lookup id = some u) (hs : u.state = .dispatched) :
    driveRound w = afterRetryDone w id o :=
  round_retry_done_gen hpc hr hq ((Edit.done id _).step_hit {} hu hs)

/-- `Retry(TaskDone id o (some e))`, the failed `MarkAsDone` HAD taken effect (`Fault.after`: the task
already carries `done_at`): `MarkAsDone` is refused with `ErrAlreadyDone`, which `Retry` swallows — it
returns `Zero` and the world is otherwise unchanged (idempotent). -/
theorem round_retry_done_already {w : World} {id : String} {o : Outcome} {e : Err} {u : Task}
    (hpc : w.pc = .idle) (hr : w.ret = .taskDone id o (some e)) (hq : World.isDefError e = false)
    (hu : w.obs.repo.lookup id = some u) (hs : u.state ≠ .dispatched)
    (hd : u.doneAt.isSome = true) :
    driveRound w = { w with ctxDone := false, pc := .idle, ret := .zero } :=
  round_retry_done_gen hpc hr hq (done_step_already _ _ _ _ hu hs hd)

/-- `Retry(TaskDone id o (some e))` for a task that is no longer stored: `ErrIdNotFound` is reported
as `TaskDone id o (some idNotFound)`, which is NOT retryable. -/
theorem round_retry_done_missing {w : World} {id : String} {o : Outcome} {e : Err}
    (hpc : w.pc = .idle) (hr : w.ret = .taskDone id o (some e)) (hq : World.isDefError e = false)
    (hu : w.obs.repo.lookup id = none) :
    driveRound w = { w with ctxDone := false, pc := .idle,
                            ret := .taskDone id o (some .idNotFound) } :=
  round_retry_done_gen hpc hr hq (done_step_missing _ _ _ _ hu)

theorem startTimer_started (o : Obs) (f : Option Err) : (o.startTimer f).hook.started = true :=
  o.startTimer_started f

/-- `Retry(TimerUpdateError e)`: `StopTimer(); StartTimer()`; the re-arm succeeds (no hook fault), so
`LastTimerUpdateError()` is nil and `Retry` returns `Zero`. -/
theorem round_retry_timer {w : World} {e : Err} (hpc : w.pc = .idle)
    (hr : w.ret = .timerUpdateError e) :
    driveRound w = { w with ctxDone := false, pc := .idle,
                            obs := w.obs.stopTimer.startTimer none, ret := .zero } := by
  have hle := startTimer_none_lastErr w.obs.stopTimer
  simp [driveRound, drive, autoAct, World.step, World.sched_beginRetry_timer, World.sched_rstop, World.sched_rstart,
    World.sched_rlastErr, hpc, retryable, hr, hle, World.finish]

/-- the observable after `StopTimer(); StartTimer()` when the head `hd` is not yet due: `hd` is
cached, the cache is trusted, the timer is armed exactly at `hd.scheduledAt` -/
def restartedArmed (o : Obs) (hd : Task) : Obs :=
  { o with hook := { o.hook with cached := some hd, stale := false, timerReset := true,
                                 started := true, lastErr := none },
           clock := { o.clock with armed := some hd.scheduledAt, pending := false } }

/-- the observable after `StopTimer(); StartTimer()` when nothing is scheduled -/
def restartedEmpty (o : Obs) : Obs :=
  { o with hook := { o.hook with cached := none, stale := false, timerReset := false,
                                 started := true, lastErr := none },
           clock := { o.clock with armed := none, pending := false } }

theorem restart_notDue {o : Obs} {hd : Task} (hn : o.repo.getNext = some hd)
    (hdue : o.clock.now < hd.scheduledAt) :
    o.stopTimer.startTimer none = restartedArmed o hd := by
  unfold Obs.startTimer Obs.stopTimer Obs.update restartedArmed
  simp only [Bool.not_true, Bool.false_eq_true, ↓reduceIte, hn, stopAndDrain_twice]
  rw [Clock.reset_quiet, if_neg (Int.not_le.2 hdue)]

theorem restart_empty {o : Obs} (hn : o.repo.getNext = none) :
    o.stopTimer.startTimer none = restartedEmpty o := by
  unfold Obs.startTimer Obs.stopTimer Obs.update restartedEmpty
  simp only [Bool.not_true, Bool.false_eq_true, ↓reduceIte, hn, stopAndDrain_twice]

theorem restart_inv {w : World} (hL : LiveInv w) : Inv (w.obs.stopTimer.startTimer none) :=
  inv_startTimer (Or.inl hL.inv_stop) none

/-- the state returned is not a `DispatchErr` that asks for a `Retry` -/
def NoRetryDisp (w : World) : Prop := ∀ t e, w.ret = .dispatchErr t e → World.isDefError e = true

/-- a refused `MarkAsDone` changes nothing and answers `ok` (record without verdict; unreachable
under C12) or a repository verdict -/
theorem done_step_refused (r : Repo) (now : Time) (id : String) (err : Option String)
    (hg : ¬ ∃ u, r.lookup id = some u ∧ u.state = .dispatched) :
    ∃ out, Repo.step {} r now (.done id err) = (r, out) ∧
      (out = .ok ∨ ∃ e', out = .err e' ∧ World.isDefError e' = true) := by
  rw [step_done_eq, if_neg (mt Ent.guard_eq_true.1 hg)]
  exact ⟨_, rfl, Ent.refusal_cases ..⟩

/-- a fault-free call never returns a state that asks for a `Retry`: the context is not cancelled, a worker is
free, no call fails — the only errors left are the repository's verdicts -/
theorem AutoStep.not_retryable {w w' : World} (ha : AutoStep w w') (hC : CtxOk w) (hT : LErrOk w)
    (hi : w'.pc = .idle) : retryable w'.ret = false := by
  cases ha with
  | sched hpc hf hen _ hs =>
    cases hs with
    | stuck h' => exact absurd hen h'
    | cancelCtx | coreCtx | core => exact hf.elim
    | lastErr1Err hpc' he => rw [hT (.inl hpc')] at he; cases he
    | rLastErrErr hpc' he => rw [hT (.inr hpc')] at he; cases he
    | getNextFault _ hf' | getFault _ hf' | refetchFault _ hf' => cases hf; cases hf'
    | doneBefore _ hf' | redoneBefore _ hf' => cases hf; cases hf'
    | markBefore _ _ hf' => cases hf.1; cases hf'
    | noWorker => cases hf
    | doneCtx hpc' _ hc | markCtx _ hpc' _ hc | getCtx hpc' _ hc | refetchCtx hpc' _ hc | redoneCtx hpc' _ hc =>
      exact (hC.not_done hpc' nofun hc).elim
    | done | redoneErr =>
      cases hf
      exact retryable_done
    | @markErr t retry f hf' e _ _ _ he =>
      obtain ⟨rfl, rfl⟩ := hf
      simp [retryable, dispatch_err_def _ _ _ (World.faultErr_none_some he)]
    | selCtx | selCancelled | getNextNone | changed | announce | redone | getNone | run | retryZero | rLastErrOk => rfl
    | _ => cases hi
  | complete hpc | advance hpc => cases hpc.symm.trans hi
  | cancelled | blocked => rfl
  | timer | result => cases hi

/-- RECOVERY COMPLETES IN ONE ROUND: whatever state the driver held, the state returned by one round
of the fair fault-free driver does not ask for a `Retry` — the next round is an ordinary `Step`. -/
theorem round_not_retryable {w : World} (hpc : w.pc = .idle) :
    retryable (driveRound w).ret = false :=
  drive_induct (Q := fun w => CtxOk w ∧ LErrOk w) (R := fun w => retryable w.ret = false)
    (fun _ h _ => ⟨h.1.auto, LErrOk.auto _⟩) (fun _ h hi => (auto_spec _).not_retryable h.1 h.2 hi) 12 w
    ⟨.of_idle hpc, .of_idle hpc⟩ (rank_le w)

theorem round_noRetryDisp {w : World} (hpc : w.pc = .idle) : NoRetryDisp (driveRound w) := by
  intro t e hr
  have := round_not_retryable hpc
  rw [hr] at this
  simpa [retryable] using this

/-- NO TASK IS LOST. After one round of the fair fault-free driver from a world that satisfies the
invariants and is between two calls, every task stored as `dispatched` has had its work function
started. (Before the round there may be one that has not: the one named by a retryable
`DispatchErr`, `C20_recovery_idle_partial`; the round is then the `Retry` that starts it.) -/
theorem round_none_lost {w : World} (hL : LiveInv w) (hD : DispInv w) (hpc : w.pc = .idle) :
    ∀ u ∈ (driveRound w).obs.repo.tasks, u.state = .dispatched → Started (driveRound w) u.id := by
  intro u hu hs
  have hD' : DispInv (driveRound w) := hD.drive hL 12
  have hN := round_noRetryDisp hpc
  rcases hD' u hu hs with h | h
  · exact h
  · obtain ⟨t, e, h1, h2, _⟩ := h.at_idle (driveRound_idle w)
    have := hN t e h1
    rw [h2] at this
    cases this

theorem rounds_invariants {w : World} (hL : LiveInv w) (hS : StartedOk w) (hD : DispInv w)
    (hpc : w.pc = .idle) (n : Nat) :
    LiveInv (rounds n w) ∧ StartedOk (rounds n w) ∧ DispInv (rounds n w) ∧ (rounds n w).pc = .idle :=
  rounds_inv hL hS hD hpc n

theorem rounds_succ' (n : Nat) (w : World) : rounds (n + 1) w = driveRound (rounds n w) := rounds_add n 1 w

theorem rounds_none_lost {w : World} (hL : LiveInv w) (hS : StartedOk w) (hD : DispInv w)
    (hpc : w.pc = .idle) (n : Nat) :
    ∀ u ∈ (rounds (n + 1) w).obs.repo.tasks, u.state = .dispatched →
      Started (rounds (n + 1) w) u.id := by
  obtain ⟨h1, _, h3, h4⟩ := rounds_invariants hL hS hD hpc n
  rw [rounds_succ']
  exact round_none_lost h1 h3 h4

/-! ## Record consistency (C12) along scripts

`Retry(DispatchErr)` of a task that is neither scheduled nor dispatched is refused *because* the
record's timestamps say so (`def.ErrKind`); that the timestamps agree with the state is the C12
consistency of the stored records, kept by every action of a script. -/

def TaskFine (u : Task) : Prop := u.consistent = true ∧ u.id ≠ ""

def ConsInv (w : World) : Prop := ∀ u ∈ w.obs.repo.tasks, TaskFine u

theorem fine_edit {now : Time} {op : Op} {id : String} {want : St} {f : Task → Task} (he : Edit now op id want f)
    {t : Task} (hs : t.state = want) (h : TaskFine t) : TaskFine (f t) :=
  ⟨he.consistent hs h.1, he.id_eq t ▸ h.2⟩

theorem fine_step {now : Time} {op : Op} {id : String} {want : St} {f : Task → Task} (he : Edit now op id want f)
    {fl : Flags} {r : Repo} {now' : Time} (hok : TasksOk r.tasks now') (h : ∀ u ∈ r.tasks, TaskFine u) :
    ∀ u' ∈ (Repo.step fl r now op).1.tasks, TaskFine u' :=
  he.all hok h fun _ => fine_edit he

theorem fine_toTask (p : Param) (id : String) (now : Time) (hv : (p.toTask id now).isValid = true) :
    TaskFine (p.toTask id now) := by
  refine ⟨?_, ?_⟩
  · simp [Task.consistent, Param.toTask, Task.update, Task.normalizeTime, Task.blank]
  · unfold Task.isValid at hv
    simp only [Bool.and_eq_true, bne_iff_ne, ne_eq] at hv
    have := hv.1.1.1
    simpa [Param.toTask, Task.update, Task.normalizeTime, Task.blank] using this

theorem fine_mut_step {o : Obs} (hok : TasksOk o.repo.tasks o.clock.now)
    (h : ∀ u ∈ o.repo.tasks, TaskFine u) {op : Obs.OOp} {rop : Op} {d : Hook → Hook.Act}
    (hm : op.mut = some (rop, d)) (f : Option Err) :
    ∀ u' ∈ (o.step op f).1.repo.tasks, TaskFine u' := by
  intro u' hu'
  rcases mut_step_mem hm f hu' with h1 | ⟨_, _, _, rfl, hv⟩ | ⟨_, _, _, he, h1⟩
  · exact h u' h1
  · exact fine_toTask _ _ _ hv
  · exact fine_step he hok h u' h1

theorem ConsInv.step {w : World} (hL : LiveInv w) (h : ConsInv w) (a : Act)
    (hu : World.UserOk w a) : ConsInv (w.step a) := by
  have hok := hL.tasksOk
  cases a with
  | sched a =>
    show ∀ u ∈ (w.sched a).1.obs.repo.tasks, TaskFine u
    rcases (World.sched_spec w a).repo_cases with e | ⟨id, err, e⟩ | ⟨id, e⟩
    · rw [e]; exact h
    · rw [e]; exact fine_step (.done id err) hok h
    · rw [e]; exact fine_step (.dispatch id) hok h
  | user op hf =>
    obtain ⟨rop, d, hm⟩ := (userOk_cases hu).1.mut
    exact fine_mut_step hok h hm hf
  | advance t => exact h
  | complete id o =>
    simp only [World.step]
    split <;> exact h

theorem ConsInv.init (t0 : Time) : ConsInv (World.init' t0) := by
  intro u hu
  have : (World.init' t0).obs.repo = {} := startTimer_repo _ none
  rw [this] at hu
  cases hu

theorem ConsInv.run {w : World} (hL : LiveInv w) (h : ConsInv w) (acts : List Act)
    (hs : World.Script w acts) : ConsInv (w.run acts) := by
  induction acts generalizing w with
  | nil => exact h
  | cons a rest ih => exact ih (hL.step a hs.1 hs.2.1) (h.step hL a hs.1) hs.2.2

theorem ConsInv.drive {w : World} (hL : LiveInv w) (h : ConsInv w) (n : Nat) :
    ConsInv (drive n w) :=
  (drive_inv (Q := fun w => LiveInv w ∧ ConsInv w)
    (fun w h => ⟨h.1.step_free _ (autoAct_ok w).1, h.2.step h.1 _ (autoAct_ok w).1⟩) n w ⟨hL, h⟩).2

theorem ConsInv.lookup {w : World} (h : ConsInv w) {id : String} {u : Task}
    (hl : w.obs.repo.lookup id = some u) : TaskFine u :=
  h u (Repo.lookup_some hl).1

theorem ConsInv.lookup_empty {w : World} (h : ConsInv w) : w.obs.repo.lookup "" = none := by
  cases hl : w.obs.repo.lookup "" with
  | none => rfl
  | some u => exact absurd (Repo.lookup_some hl).2 (h.lookup hl).2

theorem errKindMutate_of_fine {u : Task} (h : TaskFine u) (hs : u.state ≠ .scheduled) :
    ∃ e', errKindMutate u = some e' := by
  rw [(errKind_table h.1).1]
  cases hst : u.state
  · exact absurd hst hs
  all_goals exact ⟨_, rfl⟩

/-- `Retry(DispatchErr t e)` — TOTAL description. From a world between two calls that satisfies the
invariants, with a retryable `DispatchErr t e`, one round of the fair fault-free driver either
  (run)     starts the work function of `t.id` (log grows by exactly its entry, the record is in state
            dispatched and is the stored one, `Dispatched t.id`), which happens iff the task is stored
            as scheduled or dispatched, or
  (verdict) ends with a `DispatchErr` whose error is a repository verdict (not retryable), having run
            nothing and written nothing — the task was cancelled / finished / removed meanwhile. -/
theorem round_retry_dispatchErr_total {w : World} {t : Task} {e : Err} (hL : LiveInv w)
    (hC : ConsInv w) (hpc : w.pc = .idle) (hr : w.ret = .dispatchErr t e)
    (hq : World.isDefError e = false) :
    ((∃ u, w.obs.repo.lookup t.id = some u ∧ (u.state = .scheduled ∨ u.state = .dispatched)) ∧
      ∃ cur, (driveRound w).log = w.log ++ [{ id := t.id, at_ := w.obs.clock.now, task := cur }] ∧
        cur.state = .dispatched ∧ (driveRound w).obs.repo.lookup t.id = some cur ∧
        (driveRound w).ret = .dispatched t.id ∧
        (driveRound w).running = w.running ++ [(t.id, cur)]) ∨
    ((¬ ∃ u, w.obs.repo.lookup t.id = some u ∧ (u.state = .scheduled ∨ u.state = .dispatched)) ∧
      ∃ t' e', (driveRound w).ret = .dispatchErr t' e' ∧ World.isDefError e' = true ∧
        (driveRound w).log = w.log ∧ (driveRound w).running = w.running ∧
        (driveRound w).obs = w.obs) := by
  have hg : w.getNextErr = true := hL.dispatchErr_restart hpc hr
  cases hl : w.obs.repo.lookup t.id with
  | none =>
    right
    rw [round_retry_missing hpc hL.retryMarks hr hq hg hl hC.lookup_empty]
    exact ⟨fun ⟨u, h, _⟩ => (by cases h), _, _, rfl, rfl, rfl, rfl, rfl⟩
  | some u =>
    by_cases hs : u.state = .scheduled
    · left
      refine ⟨⟨u, rfl, Or.inl hs⟩, ?_⟩
      rw [round_retry_mark hpc hL.retryMarks hr hq hl hs]
      refine ⟨_, rfl, rfl, ?_, rfl, rfl⟩
      exact (dispatch_step_scheduled w.obs t.id none hl hs).2
    · by_cases hs' : u.state = .dispatched
      · left
        refine ⟨⟨u, rfl, Or.inr hs'⟩, ?_⟩
        rw [round_retry_skip hpc hL.retryMarks hr hq hl hs']
        exact ⟨_, rfl, hs', hl, rfl, rfl⟩
      · right
        obtain ⟨e', hk⟩ := errKindMutate_of_fine (hC.lookup hl) hs
        rw [round_retry_refused hpc hL.retryMarks hr hq hg hl hs hs' hk]
        refine ⟨?_, _, _, rfl, errKindMutate_isDefError hk, rfl, rfl, rfl⟩
        rintro ⟨u', h, h'⟩
        cases h
        rcases h' with h' | h'
        · exact hs h'
        · exact hs' h'

/-- `Retry(TaskDone id o (some e))` — TOTAL description. One round of the fair fault-free driver starts
no work function and leaves hook and clock alone, and either
  (record)  the task is stored as dispatched: the result is recorded, `Zero`; or
  (verdict) it is not: nothing is written, and the round ends with `Zero` (`ErrAlreadyDone` is
            swallowed: the failed attempt had taken effect) or with `TaskDone id o (some e')`, `e'` a
            repository verdict — not retryable. -/
theorem round_retry_done_total {w : World} {id : String} {o : Outcome} {e : Err}
    (hpc : w.pc = .idle) (hr : w.ret = .taskDone id o (some e)) (hq : World.isDefError e = false) :
    (driveRound w).pc = .idle ∧ (driveRound w).log = w.log ∧ (driveRound w).running = w.running ∧
    (driveRound w).obs.hook = w.obs.hook ∧ (driveRound w).obs.clock = w.obs.clock ∧
    (((∃ u, w.obs.repo.lookup id = some u ∧ u.state = .dispatched) ∧
        driveRound w = afterRetryDone w id o) ∨
     ((¬ ∃ u, w.obs.repo.lookup id = some u ∧ u.state = .dispatched) ∧
        (driveRound w).obs = w.obs ∧
        ((driveRound w).ret = .zero ∨
          ∃ e', (driveRound w).ret = .taskDone id o (some e') ∧ World.isDefError e' = true))) := by
  by_cases hg : ∃ u, w.obs.repo.lookup id = some u ∧ u.state = .dispatched
  · obtain ⟨u, hl, hs⟩ := hg
    rw [round_retry_done hpc hr hq hl hs]
    exact ⟨rfl, rfl, rfl, rfl, rfl, Or.inl ⟨⟨u, hl, hs⟩, rfl⟩⟩
  · obtain ⟨out, h1, h2⟩ := done_step_refused w.obs.repo w.obs.clock.now id (World.outcomeErr o) hg
    rw [round_retry_done_gen hpc hr hq h1]
    refine ⟨rfl, rfl, rfl, rfl, rfl, Or.inr ⟨hg, rfl, ?_⟩⟩
    rcases h2 with h2 | ⟨e', h2, h3⟩
    · left; rw [h2]; rfl
    · rw [h2]
      by_cases he : e' = .alreadyDone
      · left; simp [doneRet, he]
      · right; exact ⟨e', by simp [doneRet, he], h3⟩


end Gk.Live
