/-
Characterisation of the specification's `GetNext` (`Repo.getNext`).
-/
import Gk.Repo
import Gk.Proofs.KeyOrder

namespace Gk
namespace Repo

theorem minKeyed_eq_none {l : List (Key × Task)} : minKeyed l = none ↔ l = [] := by
  cases l with
  | nil => simp [minKeyed]
  | cons x xs =>
    simp only [minKeyed]
    split
    · simp
    · split <;> simp

theorem minKeyed_some {l : List (Key × Task)} {m : Key × Task} (h : minKeyed l = some m) :
    m ∈ l ∧ ∀ x ∈ l, x.1.less m.1 = false := by
  induction l generalizing m with
  | nil => simp [minKeyed] at h
  | cons x xs ih =>
    simp only [minKeyed] at h
    split at h
    · next hn =>
      rw [minKeyed_eq_none] at hn
      subst hn
      cases h
      simp [Key.less_irrefl]
    · next m0 hm0 =>
      have ih0 := ih hm0
      split at h
      · next hlt =>
        cases h
        refine ⟨List.mem_cons_of_mem _ ih0.1, ?_⟩
        intro y hy
        rcases List.mem_cons.1 hy with rfl | hy
        · exact Key.less_asymm hlt
        · exact ih0.2 y hy
      · next hlt =>
        cases h
        refine ⟨List.mem_cons_self, ?_⟩
        intro y hy
        rcases List.mem_cons.1 hy with rfl | hy
        · exact Key.less_irrefl _
        · exact Key.less_ntrans (ih0.2 y hy) (by simpa using hlt)

theorem minKeyed_unique {l : List (Key × Task)} {m : Key × Task}
    (hd : ∀ x ∈ l, ∀ y ∈ l, x.1 = y.1 → x = y) (hm : m ∈ l)
    (hmin : ∀ x ∈ l, x.1.less m.1 = false) : minKeyed l = some m := by
  cases h : minKeyed l with
  | none =>
    rw [minKeyed_eq_none] at h
    subst h
    cases hm
  | some m' =>
    have h' := minKeyed_some h
    rw [hd m' h'.1 m hm (Key.eq_of_not_less (hmin m' h'.1) (h'.2 m hm))]

theorem mem_scheduledKeyed {ts : List Task} {k : Key} {t : Task} :
    (k, t) ∈ scheduledKeyed ts ↔ ∃ i, ts[i]? = some t ∧ t.state = .scheduled ∧ k = t.key i := by
  unfold scheduledKeyed
  simp only [List.mem_map, List.mem_filter, List.mem_zipIdx_iff_getElem?, Prod.exists,
    Prod.mk.injEq, beq_iff_eq]
  constructor
  · rintro ⟨t', i, ⟨h1, h2⟩, h3, rfl⟩
    exact ⟨i, h1, h2, h3.symm⟩
  · rintro ⟨i, h1, h2, h3⟩
    exact ⟨t, i, ⟨h1, h2⟩, h3.symm, rfl⟩

theorem scheduledKeyed_keys_distinct (ts : List Task) :
    ∀ x ∈ scheduledKeyed ts, ∀ y ∈ scheduledKeyed ts, x.1 = y.1 → x = y := by
  rintro ⟨k, t⟩ hx ⟨k', t'⟩ hy (e : k = k')
  rw [mem_scheduledKeyed] at hx hy
  obtain ⟨i, h1, -, rfl⟩ := hx
  obtain ⟨j, h1', -, rfl⟩ := hy
  have : i = j := congrArg Key.rank e
  subst this
  rw [h1] at h1'
  cases h1'
  rfl

/-- `GetNext` returns `t` iff `t` is a scheduled task at some position `i` such that no scheduled
task `t'` (at position `j`) is smaller w.r.t. (scheduled_at asc, priority desc, created_at asc,
insertion position asc). -/
theorem getNext_some_iff (r : Repo) (t : Task) :
    r.getNext = some t ↔
      ∃ i : Nat, r.tasks[i]? = some t ∧ t.state = .scheduled ∧
        ∀ (j : Nat) (t' : Task), r.tasks[j]? = some t' → t'.state = .scheduled →
          (t'.key j).less (t.key i) = false := by
  unfold getNext
  constructor
  · intro h
    rw [Option.map_eq_some_iff] at h
    obtain ⟨⟨k, t0⟩, hm, rfl⟩ := h
    have hs := minKeyed_some hm
    obtain ⟨i, h1, h2, rfl⟩ := mem_scheduledKeyed.1 hs.1
    refine ⟨i, h1, h2, ?_⟩
    intro j t' hj hs'
    exact hs.2 (t'.key j, t') (mem_scheduledKeyed.2 ⟨j, hj, hs', rfl⟩)
  · rintro ⟨i, h1, h2, h3⟩
    have : minKeyed (scheduledKeyed r.tasks) = some (t.key i, t) := by
      refine minKeyed_unique (scheduledKeyed_keys_distinct _) (mem_scheduledKeyed.2 ⟨i, h1, h2, rfl⟩) ?_
      rintro ⟨k, t'⟩ hx
      obtain ⟨j, hj, hs', rfl⟩ := mem_scheduledKeyed.1 hx
      exact h3 j t' hj hs'
    rw [this]
    rfl

/-- `GetNext` reports `exhausted` iff there is no scheduled task. -/
theorem getNext_none_iff {r : Repo} :
    r.getNext = none ↔ ∀ t ∈ r.tasks, t.state ≠ .scheduled := by
  unfold getNext
  rw [Option.map_eq_none_iff, minKeyed_eq_none, List.eq_nil_iff_forall_not_mem]
  constructor
  · intro h t ht hs
    obtain ⟨i, hi, hti⟩ := List.getElem_of_mem ht
    exact h (t.key i, t) (mem_scheduledKeyed.2 ⟨i, by simp [hi, hti], hs, rfl⟩)
  · rintro h ⟨k, t⟩ hx
    obtain ⟨i, h1, h2, -⟩ := mem_scheduledKeyed.1 hx
    exact h t (List.mem_of_getElem? h1) h2

end Repo
end Gk
