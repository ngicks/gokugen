/-
One repository write, without any invariant: `lookup` after `replace` / an insertion, the four guarded writes of the
lifecycle (`Edit`) as one conditional UPDATE (`mutateScheduled_eq`, `step_done_eq`, guard `Ent.guard`), when such a
write answers `ok` (`Edit.step_hit`; `Ent.mutate_ok_iff` over `Ent.Marked`), and what a lifecycle write does to the row
stored under one id (`step_lookup`, `Edited`, `step_edge`, `keep_ne`).
Imported by the safety and by the liveness development, which cannot be imported together (DESIGN 16): a name added
here must clash with neither.
-/
import Gk.Repo
import Gk.EntProto
import Gk.Proofs.Task
namespace Gk

theorem errKind_table {t : Task} (h : t.consistent = true) :
    errKindMutate t = (match t.state with
      | .scheduled => none
      | .dispatched => some .alreadyDispatched
      | .cancelled => some .alreadyCancelled
      | .done | .err => some .alreadyDone) ∧
    errKindMarkAsDone t = (match t.state with
      | .scheduled => some .notDispatched
      | .dispatched => none
      | .cancelled => some .alreadyCancelled
      | .done | .err => some .alreadyDone) := by
  unfold Task.consistent at h
  cases hs : t.state <;> simp only [hs, Bool.and_eq_true, Option.isNone_iff_eq_none, Option.isSome_iff_ne_none, ne_eq] at h ⊢ <;>
    simp [errKindMutate, errKindMarkAsDone, errKind, h]

/-- Everything except the three recovery operations of the SQL repository. -/
def Op.isLifecycle : Op → Bool
  | .revert | .cancelDispatched | .deleteEnded => false
  | _ => true

theorem Repo.lookup_some {r : Repo} {id : String} {t : Task} (h : r.lookup id = some t) :
    t ∈ r.tasks ∧ t.id = id := by
  refine ⟨List.mem_of_find?_eq_some h, ?_⟩
  have := List.find?_some h
  simpa using this

theorem Repo.lookup_none {r : Repo} {id : String} (h : r.lookup id = none) :
    ∀ t ∈ r.tasks, t.id ≠ id := by
  intro t ht
  have := List.find?_eq_none.mp h t ht
  simpa using this

theorem Repo.lookup_replace_map (r : Repo) (id' id : String) {f : Task → Task} (hf : ∀ t, (f t).id = t.id) :
    (r.replace id' f).lookup id = (r.lookup id).map (fun t => if t.id == id' then f t else t) := by
  simp only [Repo.lookup, Repo.replace, List.find?_map]
  congr 2
  funext t
  simp only [Function.comp]
  split <;> simp [hf]

theorem Repo.lookup_replace (r : Repo) (i : String) {f : Task → Task} (hf : ∀ t, (f t).id = t.id)
    (id : String) :
    (r.replace i f).lookup id = if id = i then (r.lookup i).map f else r.lookup id := by
  rw [Repo.lookup_replace_map r i id hf]
  cases hl : r.lookup id with
  | none => split <;> simp_all
  | some t =>
    have := (Repo.lookup_some hl).2
    by_cases h : id = i <;> simp_all

theorem Repo.lookup_append (r : Repo) (t : Task) (id : String) :
    ({ tasks := r.tasks ++ [t] } : Repo).lookup id =
      (r.lookup id).or (if t.id == id then some t else none) := by
  simp only [Repo.lookup, List.find?_append, List.find?_cons, List.find?_nil]
  cases t.id == id <;> rfl

theorem Repo.replace_congr {r : Repo} {id : String} {f g : Task → Task} (h : ∀ t ∈ r.tasks, f t = g t) :
    r.replace id f = r.replace id g := by
  simp only [Repo.replace, Repo.mk.injEq]
  exact List.map_congr_left fun t ht => by rw [h t ht]

/-- The guarded single-task writes of the lifecycle: the id addressed, the state the task must be in,
and what is done to it. -/
inductive Edit (now : Time) : Op → String → St → (Task → Task) → Prop
  | update (id p) (hv : p.validForUpdate = true) :
      Edit now (.update id p) id .scheduled (Ent.setUpdate p)
  | cancel (id) : Edit now (.cancel id) id .scheduled (Ent.setCancel now)
  | dispatch (id) : Edit now (.dispatch id) id .scheduled (Ent.setDispatch now)
  | done (id e) : Edit now (.done id e) id .dispatched (Ent.setDone now e)

@[simp] theorem Ent.setCancel_state (now : Time) (t : Task) : (Ent.setCancel now t).state = .cancelled := rfl
@[simp] theorem Ent.setDispatch_state (now : Time) (t : Task) : (Ent.setDispatch now t).state = .dispatched := rfl
@[simp] theorem Ent.setDone_doneAt (now : Time) (e : Option String) (t : Task) :
    (Ent.setDone now e t).doneAt = some (normalize now) := by cases e <;> rfl
theorem Ent.setDone_state (now : Time) (e : Option String) (t : Task) :
    (Ent.setDone now e t).state = .done ∨ (Ent.setDone now e t).state = .err := by cases e <;> simp [Ent.setDone]

theorem Edit.id_eq {now op id want f} (he : Edit now op id want f) (t : Task) : (f t).id = t.id := by
  cases he <;> first | rfl | (rename_i e; cases e <;> rfl)

theorem Edit.consistent {now op id want f} (he : Edit now op id want f) {t : Task} (hs : t.state = want)
    (hc : t.consistent = true) : (f t).consistent = true := by
  cases he with
  | update => exact (Task.update_consistent ..).trans hc
  | cancel | dispatch => simp_all [Task.consistent, Ent.setCancel, Ent.setDispatch]
  | done _ e => cases e <;> simp_all [Task.consistent, Ent.setDone]

/-! ## The guarded writes as one conditional UPDATE, and one write seen from one id

No invariant is needed in this section: `lookup` finds the FIRST row with the key, an insertion appends, and a guarded
write only fires on the row its guard (`Ent.guard`: the row exists and is in the state asked for) looked at. -/

namespace Ent

theorem guard_eq_true {r : Repo} {id : String} {st : St} :
    guard r id st = true ↔ ∃ t, r.lookup id = some t ∧ t.state = st := by
  unfold guard
  cases r.lookup id <;> simp

theorem guard_eq_false {r : Repo} {id : String} {st : St} :
    guard r id st = false ↔ ∀ t, r.lookup id = some t → t.state ≠ st := by
  unfold guard
  cases r.lookup id <;> simp

theorem refusal_eq_ok {ek : Task → Option Err} {l : Option Task} :
    refusal ek l = .ok ↔ ∃ t, l = some t ∧ ek t = none := by
  cases l with
  | none => simp [refusal]
  | some t =>
    simp only [refusal, Option.some.injEq, exists_eq_left']
    cases ek t <;> simp

end Ent
open Ent (refusal)

/-- The guard the single-task writes open with, in `Repo.step` and in `Mem.step` alike: look the task up, refuse if
it is missing or not in state `want`, else go on to `k`. Over any state type: `s` is the state a refusal leaves
alone. Both step functions unfold to it, which is why its lemmas apply to them as they stand. -/
def guarded {σ : Type} (l : Option Task) (s : σ) (want : St) (ek : Task → Option Err) (k : σ) : σ × Out :=
  match l with
  | none => (s, .err .idNotFound)
  | some t =>
    if t.state != want then
      match ek t with
      | some e => (s, .err e)
      | none => (s, .ok)
    else (k, .ok)

theorem guarded_ind {σ : Type} {P : σ → Prop} {l : Option Task} {s : σ} {want : St}
    {ek : Task → Option Err} {k : σ} (hs : P s) (hk : ∀ t, l = some t → t.state = want → P k) :
    P (guarded l s want ek k).1 := by
  unfold guarded
  split
  · exact hs
  · split
    · split <;> exact hs
    · next h => exact hk _ rfl (by simpa using h)

theorem guarded_map {σ τ : Type} (g : σ → τ) (l : Option Task) (s : σ) (want : St)
    (ek : Task → Option Err) (k : σ) :
    (guarded l s want ek k).2 = (guarded l (g s) want ek (g k)).2 ∧
      g (guarded l s want ek k).1 = (guarded l (g s) want ek (g k)).1 := by
  unfold guarded
  split
  · exact ⟨rfl, rfl⟩
  · split
    · split <;> exact ⟨rfl, rfl⟩
    · exact ⟨rfl, rfl⟩

theorem guarded_eq {σ : Type} (r : Repo) (id : String) (s : σ) (want : St) (ek : Task → Option Err) (k : σ) :
    guarded (r.lookup id) s want ek k =
      if Ent.guard r id want then (k, .ok) else (s, refusal ek (r.lookup id)) := by
  unfold guarded Ent.guard
  cases r.lookup id with
  | none => rfl
  | some t =>
    by_cases hs : t.state = want
    · simp [hs]
    · simp only [bne_iff_ne, ne_eq, hs, not_false_eq_true, if_true, beq_iff_eq, if_false, refusal]
      cases ek t <;> rfl

theorem mutateScheduled_eq (r : Repo) (id : String) (f : Task → Task) :
    r.mutateScheduled id f =
      if Ent.guard r id .scheduled then (r.replace id f, .ok) else (r, refusal errKindMutate (r.lookup id)) :=
  guarded_eq r id r .scheduled errKindMutate _

theorem step_done_eq (fl : Flags) (r : Repo) (now : Time) (id : String) (e : Option String) :
    Repo.step fl r now (.done id e) =
      if Ent.guard r id .dispatched then (r.replace id (Ent.setDone now e), .ok)
      else (r, refusal errKindMarkAsDone (r.lookup id)) :=
  guarded_eq r id r .dispatched errKindMarkAsDone _

/-- Every row that has left `scheduled` carries a timestamp that makes `errKindMutate` refuse. -/
def Ent.Marked (r : Repo) : Prop := ∀ id t, r.lookup id = some t → t.state ≠ .scheduled → errKindMutate t ≠ none

/-- With every refused row marked, the UPDATE guarded by `state = scheduled` reports success exactly when it hits. -/
theorem Ent.mutate_ok_iff {r : Repo} (hm : Marked r) (id : String) (f : Task → Task) :
    (r.mutateScheduled id f).2 = .ok ↔ guard r id .scheduled = true := by
  rw [mutateScheduled_eq]
  cases hg : guard r id .scheduled
  · simp only [Bool.false_eq_true, if_false, iff_false, refusal_eq_ok, not_exists, not_and]
    exact fun t hl => hm id t hl (guard_eq_false.mp hg t hl)
  · simp

/-- The whole answer of a guarded write: the UPDATE and `ok`, or nothing and the refusal `def.ErrKind` reads off the
row (with the options of the operation). -/
theorem Edit.step_eq {now : Time} {op : Op} {id : String} {want : St} {f : Task → Task}
    (he : Edit now op id want f) (fl : Flags) (r : Repo) :
    ∃ o : ErrKindOption, Repo.step fl r now op =
      if Ent.guard r id want then (r.replace id f, .ok) else (r, refusal (errKind · o) (r.lookup id)) := by
  cases he with
  | update id p hv =>
    exact ⟨{}, by simp only [Repo.step, hv, Bool.not_true, Bool.false_eq_true, if_false, mutateScheduled_eq]; rfl⟩
  | cancel id | dispatch id => exact ⟨{}, by simp only [Repo.step, mutateScheduled_eq]; rfl⟩
  | done id e => exact ⟨_, by rw [step_done_eq]; rfl⟩

theorem Edit.step_fst {now : Time} {op : Op} {id : String} {want : St} {f : Task → Task}
    (he : Edit now op id want f) (fl : Flags) (r : Repo) :
    (Repo.step fl r now op).1 = if Ent.guard r id want then r.replace id f else r := by
  obtain ⟨o, h⟩ := he.step_eq fl r
  rw [h]
  split <;> rfl

theorem lookup_guarded (r : Repo) (i : String) (want : St) {f : Task → Task} (hf : ∀ t, (f t).id = t.id)
    (id : String) :
    (if Ent.guard r i want then r.replace i f else r).lookup id =
      (r.lookup id).map fun t => if id = i ∧ t.state = want then f t else t := by
  by_cases hid : id = i
  · subst hid
    cases hg : Ent.guard r id want
    · rw [if_neg Bool.false_ne_true]
      cases hl : r.lookup id with
      | none => rfl
      | some t => simp [Ent.guard_eq_false.mp hg t hl]
    · obtain ⟨t, hl, hs⟩ := Ent.guard_eq_true.mp hg
      simp [Repo.lookup_replace r id hf id, hl, hs]
  · have : (if Ent.guard r i want then r.replace i f else r).lookup id = r.lookup id := by
      split
      · rw [Repo.lookup_replace r i hf id, if_neg hid]
      · rfl
    rw [this]
    cases r.lookup id <;> simp [hid]

theorem Edit.lookup_hit {now : Time} {op : Op} {id : String} {want : St} {f : Task → Task}
    (he : Edit now op id want f) (fl : Flags) {r : Repo} {t : Task} (hl : r.lookup id = some t) (hs : t.state = want) :
    (Repo.step fl r now op).1.lookup id = some (f t) := by
  rw [he.step_fst, lookup_guarded r id want he.id_eq, hl, Option.map_some, if_pos ⟨rfl, hs⟩]

theorem Edit.step_hit {now : Time} {op : Op} {id : String} {want : St} {f : Task → Task}
    (he : Edit now op id want f) (fl : Flags) {r : Repo} {t : Task} (hl : r.lookup id = some t) (hs : t.state = want) :
    Repo.step fl r now op = (r.replace id f, .ok) := by
  obtain ⟨_, h⟩ := he.step_eq fl r
  rw [h, if_pos (Ent.guard_eq_true.2 ⟨t, hl, hs⟩)]

/-- pointwise effect of a lifecycle write on a stored task, `id` is the id it is stored under -/
def stepOne (now : Time) (op : Op) (id : String) (t : Task) : Task :=
  match op with
  | .update i p =>
    if id = i ∧ p.validForUpdate = true ∧ t.state = .scheduled then Ent.setUpdate p t else t
  | .cancel i => if id = i ∧ t.state = .scheduled then Ent.setCancel now t else t
  | .dispatch i => if id = i ∧ t.state = .scheduled then Ent.setDispatch now t else t
  | .done i e => if id = i ∧ t.state = .dispatched then Ent.setDone now e t else t
  | _ => t

/-- what `add` stores under an id that was not stored -/
def stepNew (now : Time) (op : Op) (id : String) : Option Task :=
  match op with
  | .add i p =>
    if id = i ∧ (p.normalize.toTask i now).isValid = true then some (p.normalize.toTask i now) else none
  | _ => none

theorem stepNew_some {now : Time} {op : Op} {id : String} {t : Task} (h : stepNew now op id = some t) :
    ∃ p, op = .add id p ∧ t = p.normalize.toTask id now := by
  cases op <;> try cases h
  next i p =>
    simp only [stepNew] at h
    split at h
    · next hc => cases h; exact ⟨p, by rw [hc.1], by rw [hc.1]⟩
    · cases h

/-- pointwise effect of a lifecycle write on the lookup of `id` -/
def stepTask (now : Time) (op : Op) (id : String) : Option Task → Option Task
  | some t => some (stepOne now op id t)
  | none => stepNew now op id

theorem Edit.stepOne {now : Time} {op : Op} {i : String} {want : St} {f : Task → Task}
    (he : Edit now op i want f) (id : String) (t : Task) :
    stepOne now op id t = if id = i ∧ t.state = want then f t else t := by
  cases he with
  | update i p hv => simp only [Gk.stepOne, hv, true_and]
  | _ => rfl

/-- The repository is a map from ids to rows as far as the lifecycle writes are concerned: what `lookup id` finds
after a write is a function of what it found before. -/
theorem step_lookup (fl : Flags) (r : Repo) (now : Time) (op : Op) (hop : op.isLifecycle = true) (id : String) :
    (Repo.step fl r now op).1.lookup id = stepTask now op id (r.lookup id) := by
  have edit : ∀ {i : String} {want : St} {f : Task → Task}, Edit now op i want f →
      (Repo.step fl r now op).1.lookup id = stepTask now op id (r.lookup id) := by
    intro i want f he
    rw [he.step_fst, lookup_guarded r i want he.id_eq]
    cases r.lookup id with
    | none => cases he <;> rfl
    | some t => simp only [Option.map_some, stepTask, he.stepOne]
  have same : (Repo.step fl r now op).1 = r → stepOne now op id = (fun t => t) → stepNew now op id = none →
      (Repo.step fl r now op).1.lookup id = stepTask now op id (r.lookup id) := by
    intro h1 h2 h3
    rw [h1]; cases r.lookup id <;> simp [stepTask, h2, h3]
  cases op with
  | add i p =>
    simp only [Repo.step]
    split
    · next hv => cases r.lookup id <;> simp [stepTask, stepOne, stepNew, (Bool.not_eq_true' _).mp hv]
    · next hv =>
      have hv : (p.normalize.toTask i now).isValid = true := by simpa using hv
      rw [Repo.lookup_append, Param.toTask_id]
      cases r.lookup id with
      | some t => rfl
      | none =>
        by_cases hid : id = i
        · subst hid; simp [stepTask, stepNew, hv]
        · have : ¬ i = id := fun h => hid h.symm
          simp [stepTask, stepNew, hid, this]
  | get i => exact same (by simp only [Repo.step]; split <;> rfl) rfl rfl
  | find q o l => exact same rfl rfl rfl
  | next => exact same (by simp only [Repo.step]; split <;> rfl) rfl rfl
  | update i p =>
    by_cases hv : p.validForUpdate = true
    · exact edit (.update i p hv)
    · exact same (by simp only [Repo.step, hv, Bool.not_false, if_true]) (by funext t; simp [stepOne, hv]) rfl
  | cancel i => exact edit (.cancel i)
  | dispatch i => exact edit (.dispatch i)
  | done i e => exact edit (.done i e)
  | revert | cancelDispatched | deleteEnded => cases hop

/-- what a lifecycle write does to the task stored under `id`: nothing, or the one guarded edit (`Edit`) of
the operation, which addresses this id and finds the task in the state it asks for -/
def Edited (now : Time) (op : Op) (id : String) (t t' : Task) : Prop :=
  t' = t ∨ ∃ want f, Edit now op id want f ∧ t.state = want ∧ t' = f t

theorem stepOne_edited (now : Time) (op : Op) (id : String) (t : Task) :
    Edited now op id t (stepOne now op id t) := by
  cases op <;> simp only [stepOne] <;> try exact .inl rfl
  all_goals split <;> try exact .inl rfl
  · rename_i h; obtain ⟨rfl, hv, hs⟩ := h; exact .inr ⟨_, _, .update _ _ hv, hs, rfl⟩
  · rename_i h; obtain ⟨rfl, hs⟩ := h; exact .inr ⟨_, _, .cancel _, hs, rfl⟩
  · rename_i h; obtain ⟨rfl, hs⟩ := h; exact .inr ⟨_, _, .dispatch _, hs, rfl⟩
  · rename_i h; obtain ⟨rfl, hs⟩ := h; exact .inr ⟨_, _, .done _ _, hs, rfl⟩

theorem step_edge (fl : Flags) (r : Repo) (now : Time) (op : Op) (hp : op.isLifecycle = true) {id : String}
    {cur : Task} (hl : r.lookup id = some cur) :
    ∃ cur', (Repo.step fl r now op).1.lookup id = some cur' ∧ Edited now op id cur cur' :=
  ⟨_, by rw [step_lookup fl r now op hp id, hl]; rfl, stepOne_edited now op id cur⟩

/-- Where the row a lifecycle write leaves under `id` comes from: the one an `add` stores under an id that was not
stored, or the row stored before, edited or not. -/
theorem step_lookup_rev (fl : Flags) (r : Repo) (now : Time) (op : Op) (hp : op.isLifecycle = true) {id : String}
    {t' : Task} (h : (Repo.step fl r now op).1.lookup id = some t') :
    (r.lookup id = none ∧ ∃ p, op = .add id p ∧ t' = p.normalize.toTask id now) ∨
      ∃ t, r.lookup id = some t ∧ Edited now op id t t' := by
  rw [step_lookup fl r now op hp id] at h
  cases ho : r.lookup id with
  | none => rw [ho] at h; exact .inl ⟨rfl, stepNew_some h⟩
  | some t => rw [ho] at h; cases h; exact .inr ⟨t, rfl, stepOne_edited now op id t⟩

theorem keep_ne (fl : Flags) (r : Repo) (now : Time) (op : Op) (hp : op.isLifecycle = true) {id : String}
    {cur : Task} (hl : r.lookup id = some cur) (hs : cur.state ≠ .scheduled)
    (hne : cur.state = .dispatched → ∀ e, op ≠ .done id e) :
    (Repo.step fl r now op).1.lookup id = some cur := by
  obtain ⟨cur', hl', rfl | ⟨want, f, he, hw, rfl⟩⟩ := step_edge fl r now op hp hl
  · exact hl'
  · cases he with
    | done id e => exact absurd rfl (hne hw e)
    | _ => exact absurd hw hs

theorem Edit.map {now : Time} {op : Op} {id : String} {want : St} {f : Task → Task}
    (he : Edit now op id want f) (fl : Flags) (r : Repo) :
    ∃ g, (Repo.step fl r now op).1.tasks = r.tasks.map g ∧ (∀ t ∈ r.tasks, g t = t ∨ (t.id = id ∧ g t = f t)) ∧
      ∀ u, r.lookup id = some u → u.state = want → g u = f u := by
  rw [he.step_fst]
  cases hg : Ent.guard r id want
  · exact ⟨fun t => t, (List.map_id' _).symm, fun _ _ => .inl rfl,
      fun u hl hs => absurd hs (Ent.guard_eq_false.mp hg u hl)⟩
  · refine ⟨fun t => if t.id == id then f t else t, rfl, fun t _ => ?_, fun u hl _ => ?_⟩
    · by_cases hid : t.id = id
      · exact .inr ⟨hid, by simp [hid]⟩
      · exact .inl (by simp [hid])
    · simp [(Repo.lookup_some hl).2]

theorem Edit.mem {now : Time} {op : Op} {id : String} {want : St} {f : Task → Task}
    (he : Edit now op id want f) {fl : Flags} {r : Repo} {u' : Task} (hu' : u' ∈ (Repo.step fl r now op).1.tasks) :
    u' ∈ r.tasks ∨ ∃ u ∈ r.tasks, u.id = id ∧ u' = f u := by
  obtain ⟨g, h1, h2, _⟩ := he.map fl r
  rw [h1] at hu'
  obtain ⟨u, hu, rfl⟩ := List.mem_map.1 hu'
  rcases h2 u hu with e | ⟨hid, e⟩
  · exact .inl (e.symm ▸ hu)
  · exact .inr ⟨u, hu, hid, e⟩

theorem Edit.keeps {now : Time} {op : Op} {id : String} {want : St} {f : Task → Task}
    (he : Edit now op id want f) (fl : Flags) {r : Repo} {u : Task} (hu : u ∈ r.tasks) (hid : u.id ≠ id) :
    u ∈ (Repo.step fl r now op).1.tasks := by
  obtain ⟨g, h1, h2, _⟩ := he.map fl r
  rw [h1]
  exact List.mem_map.2 ⟨u, hu, (h2 u hu).resolve_right fun h => hid h.1⟩

namespace Ent

/-- What a lifecycle run may have made of the state of a stored row that is not `scheduled`: the same, or
`dispatched → done / err`. -/
def Later (t t' : Task) : Prop :=
  t'.state = t.state ∨ (t.state = .dispatched ∧ (t'.state = .done ∨ t'.state = .err))

theorem Later.ne_scheduled {t t' : Task} (h : Later t t') (hns : t.state ≠ .scheduled) :
    t'.state ≠ .scheduled := by
  rcases h with e | ⟨-, e | e⟩ <;> rw [e]
  · exact hns
  all_goals decide

theorem Later.trans {t t1 t' : Task} (h : Later t t1) (h' : Later t1 t') : Later t t' := by
  rcases h with e | ⟨hd, e⟩
  · rw [Later, ← e]; exact h'
  · rcases h' with e' | ⟨hd', -⟩
    · exact .inr ⟨hd, e' ▸ e⟩
    · rcases e with e | e <;> rw [e] at hd' <;> cases hd'

/-- A stored row stays stored, and unless it was `scheduled` its state is unchanged or went `dispatched → done / err`.
In particular a row never becomes `dispatched` unless it was `scheduled` immediately before, and `done` / `err` /
`cancelled` are final. -/
theorem lookup_step_state {r : Repo} {id : String} {t : Task} (h : r.lookup id = some t)
    (now : Time) {op : Op} (hl : lifecycle op = true) :
    ∃ t', (Repo.step {} r now op).1.lookup id = some t' ∧ (t.state ≠ .scheduled → Later t t') := by
  obtain ⟨t', h', rfl | ⟨want, f, he, hs, rfl⟩⟩ := step_edge {} r now op hl h
  · exact ⟨t', h', fun _ => .inl rfl⟩
  · refine ⟨_, h', fun hns => ?_⟩
    cases he with
    | done _ e => exact .inr ⟨hs, setDone_state ..⟩
    | _ => exact absurd hs hns

/-- The same along a lifecycle run. -/
theorem lookup_run (mid : List (Time × Op)) (hl : ∀ x ∈ mid, lifecycle x.2 = true) :
    ∀ {r : Repo} {id : String} {t : Task}, r.lookup id = some t → t.state ≠ .scheduled →
    ∃ t', (Repo.run {} r mid).lookup id = some t' ∧ Later t t' := by
  induction mid with
  | nil => exact fun h _ => ⟨_, h, .inl rfl⟩
  | cons x rest ih =>
    intro r id t h hns
    obtain ⟨t1, h1, hs1⟩ := lookup_step_state h x.1 (hl x List.mem_cons_self)
    obtain ⟨t', h', hs'⟩ := ih (fun q hq => hl q (List.mem_cons_of_mem _ hq)) h1 ((hs1 hns).ne_scheduled hns)
    exact ⟨t', h', (hs1 hns).trans hs'⟩

end Ent

end Gk
