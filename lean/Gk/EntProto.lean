/-
M13 — the SQL (ent) repository's two-statement protocol, as a small-step system of concurrent clients
over ONE shared `Gk.Repo` value (the database).

Transcribed from /repo/repository/ent/repository.go:

* `AddTask`, `GetById`, `Find`, `GetNext` issue one statement each.
* `UpdateById`, `Cancel`, `MarkAsDispatched`, `MarkAsDone` issue ONE conditional statement
  `UPDATE … WHERE id = ? AND state = <required>` (atomic in the database: a compare-and-set).  Only when
  that statement MISSES (ent's `NotFoundError`: no row matched) they issue a SECOND, separate statement
  `GetById(id)` and classify the refusal from what that *later* read returns
  (`def.ErrKindUpdate/Cancel/MarkAsDispatch(t)` = `errKindMutate`, `def.ErrKindMarkAsDone(t)` =
  `errKindMarkAsDone`, unknown id = `id_not_found`).  Statements of other clients can run in between.
* `MarkAsDone` loops: when the later read shows the task *dispatched* it repeats the conditional UPDATE.
* `UpdateById` validates its parameter before touching the database (invalid ⇒ `invalid_task`), and an
  all-None parameter takes a read-only path (one `GetById` + a check of the state, no UPDATE).
* `r.clock.Now()` is read when the call starts (before the UPDATE): the `now` of the operation.
  `MarkAsDone` reads it again in every iteration of its loop; the clock reading of the next iteration is
  the argument `now'` of the action `classify` (ignored unless the call goes round the loop), and the
  `now` of the completed operation is the reading of its last iteration.

Every enabled action takes one stamp from the global counter `clock`; the stamps are the `call` / `ret`
of `Lin.LOp`.  GHOST data (never read by `step`, only copied): the stamp `lin` of the statement that
determined the result (`Phase.finished`, second component of the `hist` entries).  The history in the
sense of `Gk.Lin` is `Sys.history` (the ghost component dropped).
-/
import Gk.Basic
import Gk.Repo
import Gk.Lin
namespace Gk.Ent
open Gk.Lin

/-! ## The statements -/

/-- The `WHERE id = ? AND state = ?` guard of the conditional UPDATE: a row with this primary key exists
and is in the required state. -/
def guard (r : Repo) (id : String) (st : St) : Bool :=
  match r.lookup id with
  | some t => t.state == st
  | none => false

/-- `param.WorkId.IsNone() && … && param.Meta.IsNone()` on the normalised parameter: nothing to set. -/
def nothingToSet (p : Param) : Bool :=
  let q := p.normalize
  q.workId.isNone && q.param.isNone && q.priority.isNone && q.scheduledAt.isNone &&
    q.deadline.isNone && q.meta_.isNone

/-- Classification of a refusal from the row a `GetById` returned (`none` = ent's NotFound).
`kind` is `def.ErrKindUpdate` / `ErrKindCancel` / `ErrKindMarkAsDispatch` / `ErrKindMarkAsDone`; the code
returns their result as the error, and the empty kind is a nil error. -/
def refusal (kind : Task → Option Err) : Option Task → Out
  | none => .err .idNotFound
  | some t =>
    match kind t with
    | some e => .err e
    | none => .ok

/-- Result of the first statement of a call. -/
inductive StmtRes
  /-- the call is decided: new database state and the result -/
  | fin (r : Repo) (out : Out)
  /-- the conditional UPDATE matched no row -/
  | miss
  deriving Inhabited, DecidableEq

/-- The SET clauses of the four conditional UPDATEs. -/
def setUpdate (p : Param) (t : Task) : Task := t.update p.normalize
def setCancel (now : Time) (t : Task) : Task :=
  { t with state := .cancelled, cancelledAt := some (normalize now) }
def setDispatch (now : Time) (t : Task) : Task :=
  { t with state := .dispatched, dispatchedAt := some (normalize now) }
def setDone (now : Time) (e : Option String) (t : Task) : Task :=
  match e with
  | none => { t with state := .done, doneAt := some (normalize now) }
  | some msg => { t with state := .err, err := msg, doneAt := some (normalize now) }

/-- The first statement.  For the four conditional operations "hit" is *defined from the guard*; that the
effect and the result of a hit are those of `Repo.step` is `Gk.Ent.stmt_fin_spec`.
The single-statement operations (add / get / find / next) are their `Repo.step`.
(The recovery operations are never called, see `step`; they fall in the last case only for totality.) -/
def stmt (r : Repo) (now : Time) : Op → StmtRes
  | .update id p =>
    if !p.validForUpdate then .fin r (.err .invalidTask)          -- no database access
    else if nothingToSet p then
      -- read-only path: GetById, `if t.State != scheduled { return ErrKindUpdate(t) }; return nil`
      .fin r (match r.lookup id with
        | none => .err .idNotFound
        | some t => if t.state != .scheduled then refusal errKindMutate (some t) else .ok)
    else if guard r id .scheduled then .fin (r.replace id (setUpdate p)) .ok
    else .miss
  | .cancel id =>
    if guard r id .scheduled then .fin (r.replace id (setCancel now)) .ok else .miss
  | .dispatch id =>
    if guard r id .scheduled then .fin (r.replace id (setDispatch now)) .ok else .miss
  | .done id e =>
    if guard r id .dispatched then .fin (r.replace id (setDone now e)) .ok else .miss
  | op => .fin (Repo.step {} r now op).1 (Repo.step {} r now op).2

/-- The second statement, `GetById(id)`, and the classification of what it returned.
`none` = go back to the conditional UPDATE (`MarkAsDone`'s `continue`). -/
def classify (r : Repo) : Op → Option Out
  | .update id _ | .cancel id | .dispatch id => some (refusal errKindMutate (r.lookup id))
  | .done id _ =>
    match r.lookup id with
    | some t => if t.state == .dispatched then none else some (refusal errKindMarkAsDone (some t))
    | none => some (.err .idNotFound)
  | _ => some .ok   -- never reached: only the four conditional operations miss

/-! ## The system -/

inductive Phase
  | idle
  /-- called (stamp `call`, clock reading `now`), waiting for its first statement -/
  | called (call : Nat) (now : Time) (op : Op)
  /-- the conditional UPDATE missed, waiting for the classifying `GetById` -/
  | missed (call : Nat) (now : Time) (op : Op)
  /-- result known, waiting to return; `lin` (ghost) = stamp of the statement that decided -/
  | finished (call : Nat) (now : Time) (op : Op) (out : Out) (lin : Nat)
  deriving Inhabited

def Phase.isIdle : Phase → Bool
  | .idle => true
  | _ => false

/-- The id a call is about. -/
def opTarget : Op → Option String
  | .get id | .update id _ | .cancel id | .dispatch id | .done id _ => some id
  | _ => none

/-- The id an in-flight call is about (a finished call that has not returned yet counts). -/
def Phase.target : Phase → Option String
  | .idle => none
  | .called _ _ op | .missed _ _ op | .finished _ _ op _ _ => opTarget op

/-- The lifecycle operations (`Gk.Op.isLifecycle` of Proofs/RepoStep.lean, repeated here because the model
files do not import proof files; `Gk.Ent.lifecycle_eq` shows they agree). -/
def lifecycle : Op → Bool
  | .revert | .cancelDispatched | .deleteEnded => false
  | _ => true

structure Sys where
  /-- the database -/
  repo : Repo := {}
  /-- the global stamp counter -/
  clock : Nat := 0
  /-- one phase per client -/
  phases : List Phase
  /-- completed calls, with the ghost linearization stamp -/
  hist : List (LOp × Nat) := []

def init (n : Nat) : Sys := { phases := List.replicate n .idle }

/-- The history in the sense of `Gk.Lin`. -/
def Sys.history (s : Sys) : List LOp := s.hist.map (·.1)

/-- Calls whose result is decided but which have not returned, completed with a return "now". -/
def Sys.pending (s : Sys) : List (LOp × Nat) :=
  s.phases.filterMap fun
    | .finished k now op out lin => some ({ call := k, ret := s.clock, now := now, op := op, out := out }, lin)
    | _ => none

def Sys.Quiescent (s : Sys) : Prop := s.phases.all Phase.isIdle = true

instance (s : Sys) : Decidable s.Quiescent := by unfold Sys.Quiescent; infer_instance

inductive Act
  /-- client `c` calls `op`, the clock reads `now` -/
  | call (c : Nat) (now : Time) (op : Op)
  /-- client `c`'s first statement runs -/
  | stmt (c : Nat)
  /-- client `c`'s classifying `GetById` runs; `now'` = the clock reading of the next iteration of
  `MarkAsDone`'s loop, used only when the read shows the task dispatched -/
  | classify (c : Nat) (now' : Time)
  /-- client `c` returns -/
  | ret (c : Nat)

/-- Client `c` moves to phase `ph`; the action took the stamp `s.clock`. -/
def Sys.tick (s : Sys) (c : Nat) (ph : Phase) : Sys :=
  { s with phases := s.phases.set c ph, clock := s.clock + 1 }

/-- One action.  A disabled action leaves the system unchanged. -/
def step (s : Sys) : Act → Sys
  | .call c now op =>
    match s.phases[c]? with
    | some .idle => if lifecycle op then s.tick c (.called s.clock now op) else s
    | _ => s
  | .stmt c =>
    match s.phases[c]? with
    | some (.called k now op) =>
      match stmt s.repo now op with
      | .fin r' out => { s.tick c (.finished k now op out s.clock) with repo := r' }
      | .miss => s.tick c (.missed k now op)
    | _ => s
  | .classify c now' =>
    match s.phases[c]? with
    | some (.missed k now op) =>
      match classify s.repo op with
      | some out => s.tick c (.finished k now op out s.clock)
      | none => s.tick c (.called k now' op)
    | _ => s
  | .ret c =>
    match s.phases[c]? with
    | some (.finished k now op out lin) =>
      { s.tick c .idle with
        hist := s.hist ++ [({ call := k, ret := s.clock, now := now, op := op, out := out }, lin)] }
    | _ => s

def run (s : Sys) (acts : List Act) : Sys := acts.foldl step s

/-! ## Fresh ids -/

/-- The INSERT of `AddTask` runs with an id that is neither stored nor the target of any in-flight call.
(In the code the id is a fresh random UUID that nobody knows before `AddTask` returns it.) -/
def Act.fresh (s : Sys) : Act → Bool
  | .stmt c =>
    match s.phases[c]? with
    | some (.called _ _ (.add id _)) =>
      !(s.repo.tasks.map (·.id)).contains id && s.phases.all (fun ph => ph.target != some id)
    | _ => true
  | _ => true

/-- Every action of the run is fresh at the point it is taken. -/
def FreshAdds : Sys → List Act → Prop
  | _, [] => True
  | s, a :: rest => a.fresh s = true ∧ FreshAdds (step s a) rest

instance : (s : Sys) → (acts : List Act) → Decidable (FreshAdds s acts)
  | _, [] => isTrue trivial
  | s, a :: rest =>
    have := instDecidableFreshAdds (step s a) rest
    by unfold FreshAdds; infer_instance

end Gk.Ent
