/-
M3 — a port of Go's `container/heap` (`up`, `down`, `Init`, `Push`, `Pop`, `Remove`, `Fix`) over an
array of elements, together with the three hooks of /repo/internal/sortable_task/task.go (`swap`,
`push`, `pop`) that maintain each element's `Index` field. The `Index` fields are the function `idx`
(the Go code stores them inside the `*IndexedTask` objects the heap and the ordered map share).

`container/heap` itself is standard library: it is modelled here, and tied to the real thing by
comparing the whole heap array after every operation (harness `heap` lines).
-/
namespace Gk

structure H (α : Type) where
  arr : Array α
  idx : α → Int

namespace H
variable {α : Type} [DecidableEq α]

def empty : H α := ⟨#[], fun _ => 0⟩

/-- `sortabletask.swap`: exchange two slots, then `SetIndex(i)` on slot i and `SetIndex(j)` on slot j. -/
def swap (h : H α) (i j : Nat) (hi : i < h.arr.size) (hj : j < h.arr.size) : H α :=
  let arr := h.arr.swap i j
  have hi' : i < arr.size := by simp [arr]; exact hi
  have hj' : j < arr.size := by simp [arr]; exact hj
  ⟨arr, fun x => if x = arr[j] then (j : Int) else if x = arr[i] then (i : Int) else h.idx x⟩

@[simp] theorem swap_size (h : H α) (i j : Nat) (hi hj) : (h.swap i j hi hj).arr.size = h.arr.size := by
  simp [swap]

/-- `heap.up`. -/
def up (lt : α → α → Bool) (h : H α) (j : Nat) : H α :=
  if hj : j < h.arr.size then
    let i := (j - 1) / 2
    if hij : i = j then h
    else
      have hi : i < h.arr.size := by omega
      if lt h.arr[j] h.arr[i] then up lt (h.swap i j hi hj) i else h
  else h
termination_by j
decreasing_by omega

/-- The child `down` compares with: the right child if it exists and is smaller, else the left. -/
def child (lt : α → α → Bool) (arr : Array α) (i n : Nat) (hn : 2 * i + 1 < n ∧ n ≤ arr.size) : Nat :=
  if h2 : 2 * i + 2 < n then
    (if lt (arr[2 * i + 2]'(by omega)) (arr[2 * i + 1]'(by omega)) then 2 * i + 2 else 2 * i + 1)
  else 2 * i + 1

theorem child_spec (lt : α → α → Bool) (arr : Array α) (i n : Nat) (hn : 2 * i + 1 < n ∧ n ≤ arr.size) :
    child lt arr i n hn < n ∧ i < child lt arr i n hn ∧
      (child lt arr i n hn = 2 * i + 1 ∨ child lt arr i n hn = 2 * i + 2) := by
  have h1 : i < 2 * i + 1 := by omega
  unfold child
  split
  · next h2 =>
    split
    · exact ⟨h2, Nat.lt_succ_of_lt h1, .inr rfl⟩
    · exact ⟨hn.1, h1, .inl rfl⟩
  · exact ⟨hn.1, h1, .inl rfl⟩

/-- `heap.down` on the prefix of length `n`; also returns the final position
(Go returns `i > i0`). -/
def down (lt : α → α → Bool) (h : H α) (i n : Nat) : H α × Nat :=
  if hn : 2 * i + 1 < n ∧ n ≤ h.arr.size then
    have hc := child_spec lt h.arr i n hn
    have hi : i < h.arr.size := by omega
    have hj : child lt h.arr i n hn < h.arr.size := by omega
    if lt h.arr[child lt h.arr i n hn] h.arr[i] then
      down lt (h.swap i (child lt h.arr i n hn) hi hj) (child lt h.arr i n hn) n
    else (h, i)
  else (h, i)
termination_by n - i
decreasing_by
  have hc := child_spec lt h.arr i n hn
  omega

/-- `sortabletask.push` then `heap.up`: `heap.Push`. -/
def push (lt : α → α → Bool) (h : H α) (x : α) : H α :=
  let n := h.arr.size
  up lt ⟨h.arr.push x, fun y => if y = x then (n : Int) else h.idx y⟩ n

/-- `sortabletask.pop`: drop the last slot and set its `Index` to -1. -/
def popLast (h : H α) : H α × Option α :=
  match h.arr.back? with
  | none => (h, none)
  | some x => (⟨h.arr.pop, fun y => if y = x then (-1 : Int) else h.idx y⟩, some x)

/-- `heap.Pop`. `none` = the Go code panics (empty heap). -/
def pop (lt : α → α → Bool) (h : H α) : H α × Option α :=
  if h0 : 0 < h.arr.size then
    let n := h.arr.size - 1
    let h1 := h.swap 0 n h0 (by omega)
    popLast (down lt h1 0 n).1
  else (h, none)

/-- `heap.Remove`. `none` = the Go code panics (index out of range). -/
def remove (lt : α → α → Bool) (h : H α) (i : Nat) : H α × Option α :=
  if hi : i < h.arr.size then
    let n := h.arr.size - 1
    if hne : n ≠ i then
      let h1 := h.swap i n hi (by omega)
      let (h2, i') := down lt h1 i n
      let h3 := if i' > i then h2 else up lt h2 i
      popLast h3
    else popLast h
  else (h, none)

/-- `heap.Fix`. Out of range: the Go code panics; the model leaves the heap alone and reports `false`. -/
def fix (lt : α → α → Bool) (h : H α) (i : Nat) : H α × Bool :=
  if i < h.arr.size then
    let (h2, i') := down lt h i h.arr.size
    (if i' > i then h2 else up lt h2 i, true)
  else (h, false)

/-- `heap.Init` loop body, from `i` down to 0. -/
def initFrom (lt : α → α → Bool) (h : H α) : Nat → H α
  | 0 => (down lt h 0 h.arr.size).1
  | i + 1 => initFrom lt (down lt h (i + 1) h.arr.size).1 i

/-- `heap.Init`. -/
def init (lt : α → α → Bool) (h : H α) : H α :=
  let n := h.arr.size
  if n / 2 = 0 then h else initFrom lt h (n / 2 - 1)

end H
end Gk
