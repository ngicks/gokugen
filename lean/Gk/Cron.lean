/-
M9 — the cron store. Transcribed from /repo/cron/table.go (`Entry`, identity key
`paramToSerializable`) and /repo/cron/cron.go (`updateTask`, `EditTask`, `Pop`, `pushNext`, `Peek`,
`Schedule`, `resetTimer`, Start/Stop, `NextScheduled`).

* `Entry` objects are shared with the client by pointer, so their cursors live in an object store
  (`ents`, addressed by a name that stands for the pointer).
* A parsed schedule is an oracle: `occ` lists its occurrences in increasing order (the harness asks
  robfig/cron); `Entry.next` = the first occurrence after the cursor.
* The pending heap is a bag ordered by `Key.less` (the heap algorithm is C02's subject; here only the
  order is observable). Task ids are random UUIDs in the code and are ignored (`""`) in the model.
* `fixed` selects the repaired code (stage with `Param()`, advance cursors on commit; duplicate
  identities among added entries always rejected; `started` flag honoured by `resetTimer`);
  `fixed = false` is the pinned source (D9, D9b, D10).
-/
import Gk.Basic
import Gk.Hook
import Gk.Mut
namespace Gk

/-- sorted insert / replace -/
def SMap.insert (m : SMap) (k v : String) : SMap :=
  match m with
  | [] => [(k, v)]
  | (k', v') :: rest =>
    if k == k' then (k, v) :: rest
    else if k < k' then (k, v) :: (k', v') :: rest
    else (k', v') :: SMap.insert rest k v

def metaKeyScheduleHash : String := "ngicks.ScheduleHash"

structure SerKey where
  workId : String
  priority : Int
  param : SMap
  meta_ : SMap
  deriving DecidableEq, Repr, Inhabited

/-- `paramToSerializable` (nil and empty maps both serialise to `{}`). -/
def serKey (p : Param) : SerKey :=
  { workId := p.workId.getD "", priority := p.priority.getD 0, param := p.param.getD [], meta_ := p.meta_.getD [] }

structure CEntry where
  name : String
  base : Param                 -- the row's parameters (no scheduled_at)
  hash : String                -- ScheduleHash
  prev : Time                  -- cursor
  occ : List Time              -- oracle: occurrences of the schedule, increasing
  oMin : Mut.ParseOracle := ⟨none, none⟩
  oMax : Mut.ParseOracle := ⟨none, none⟩
  deriving Repr, Inhabited

/-- `schedule.Next(prev)`: first occurrence after `prev` (`none` = oracle exhausted). -/
def CEntry.nextOcc (e : CEntry) : Option Time := e.occ.find? (fun o => o > e.prev)

/-- `Entry.next()` = `Entry.Param()`: row param with the next occurrence and the schedule hash. -/
def CEntry.param (e : CEntry) : Option Param :=
  e.nextOcc.map fun o =>
    { e.base with scheduledAt := some o,
                  meta_ := some (SMap.insert (e.base.meta_.getD []) metaKeyScheduleHash e.hash) }

/-- the cursor move of `Entry.Next()` -/
def CEntry.advance (e : CEntry) : CEntry :=
  match e.nextOcc with
  | some o => { e with prev := o }
  | none => e

structure WTask where
  key : SerKey
  muts : List Mut.Mutator
  task : Task
  rank : Nat
  deriving Repr, Inhabited

structure Cron where
  fixed : Bool := true
  ents : List CEntry := []                 -- object store (client-visible Entry objects)
  entries : List (SerKey × String) := []   -- c.entries: identity ↦ entry name
  pending : List WTask := []
  counter : Nat := 0
  clock : Clock := {}
  started : Bool := false
  oracleExhausted : Bool := false          -- the model ran out of oracle occurrences (harness error)
  deriving Repr, Inhabited

namespace Cron

def ent (c : Cron) (name : String) : Option CEntry := c.ents.find? (·.name == name)

def setEnt (c : Cron) (e : CEntry) : Cron :=
  { c with ents := c.ents.map (fun x => if x.name == e.name then e else x) }

def wkey (w : WTask) : Key := w.task.key w.rank

/-- minimum of the pending bag -/
def head (c : Cron) : Option WTask :=
  c.pending.foldl (fun acc w => match acc with
    | none => some w
    | some m => if (wkey w).less (wkey m) then some w else some m) none

/-- pending tasks in pop order -/
def sorted (ws : List WTask) : List WTask :=
  ws.mergeSort (fun a b => (wkey a).less (wkey b) || !(wkey b).less (wkey a))

/-- `resetTimer` -/
def resetTimer (c : Cron) : Cron :=
  if c.fixed && !c.started then c
  else
    let clk := c.clock.stopAndDrain
    match c.head with
    | some h => { c with clock := clk.reset (h.task.scheduledAt - clk.now) }
    | none => { c with clock := clk }

def stopTimerRaw (c : Cron) : Cron := { c with clock := c.clock.stopAndDrain }

def startTimer (c : Cron) : Cron := ({ c with started := true }).resetTimer
def stopTimer (c : Cron) : Cron := ({ c with started := false }).stopTimerRaw

/-- Build the wrapped task for an entry's next occurrence: load mutators from the meta, apply, `ToTask`. -/
def wrap (c : Cron) (e : CEntry) (p : Param) (muts : List Mut.Mutator) (rank : Nat) : Option WTask :=
  match Mut.apply true c.clock.now muts p [] with
  | .ok p' _ => some { key := serKey p, muts := muts, task := p'.toTask "" c.clock.now, rank := rank }
  | .panic => none

structure Staged where
  ent : CEntry
  w : WTask

/-- `updateTask(added, removed)`. Returns `false` in `.2` when the edit is rejected. In the pinned source a
rejected edit has already advanced the cursors of the entries offered so far (returned in `.1`). -/
def updateTask (c : Cron) (added removed : List String) : Cron × Bool :=
  let removedKeys := removed.filterMap (fun n => (c.ent n).bind (·.param) |>.map serKey)
  -- staging loop
  let rec stage (c : Cron) (todo : List String) (staged : List Staged) (counter : Nat) : Cron × Option (List Staged × Nat) :=
    match todo with
    | [] => (c, some (staged, counter))
    | n :: rest =>
      match c.ent n with
      | none => (c, none)
      | some e =>
        match e.param with
        | none => ({ c with oracleExhausted := true }, none)
        | some p =>
          -- pinned source: `ent.Next()` advances the cursor while staging
          let c := if c.fixed then c else c.setEnt e.advance
          let key := serKey p
          let cHas := c.entries.any (·.1 == key)
          let addedHas := staged.any (·.w.key == key)
          let willRemove := removedKeys.contains key
          let dup := if c.fixed then addedHas || (cHas && !willRemove) else !willRemove && (cHas || addedHas)
          if dup then (c, none)
          else
            match Mut.load (p.meta_.getD []) e.oMin e.oMax with
            | .error _ => (c, none)
            | .ok muts =>
              match wrap c e p muts (counter + 1) with
              | none => (c, none)
              | some w =>
                -- pinned source: a later entry with the same identity silently replaces the earlier one
                let staged := staged.filter (·.w.key != key) ++ [{ ent := e, w := w }]
                stage c rest staged (counter + 1)
  match stage c added [] c.counter with
  | (c, none) => (c, false)
  | (c, some (staged, counter)) =>
    let c := if c.fixed then staged.foldl (fun c s => c.setEnt s.ent.advance) c else c
    let entries := c.entries.filter (fun kv => !removedKeys.contains kv.1)
    let pending := c.pending.filter (fun w => !removedKeys.contains w.key)
    ({ c with counter := counter,
              entries := entries ++ staged.map (fun s => (s.w.key, s.ent.name)),
              pending := pending ++ staged.map (·.w) }, true)

/-- `NewCronStore(entries)` on a fresh store whose object store already holds the entries. -/
def newStore (c : Cron) (names : List String) : Cron × Bool := c.updateTask names []

/-- `EditTask`: stop the timer, apply, re-arm. -/
def editTask (c : Cron) (added removed : List String) : Cron × Bool :=
  let c := c.stopTimerRaw
  let (c, ok) := c.updateTask added removed
  (c.resetTimer, ok)

/-- `Pop`. -/
def pop (c : Cron) : Cron × Option Task :=
  match c.head with
  | none => (c, none)
  | some t =>
    let pending := c.pending.filter (fun w => w.rank != t.rank)
    let c := { c with pending := pending }
    -- pushNext
    let c := match (c.entries.find? (·.1 == t.key)).bind (fun kv => c.ent kv.2) with
      | none => c   -- the Go code would dereference a nil entry here
      | some e =>
        match e.param with
        | none => { c with oracleExhausted := true }
        | some p =>
          let c := c.setEnt e.advance
          match wrap c e p t.muts (c.counter + 1) with
          | some w => { c with pending := c.pending ++ [w], counter := c.counter + 1 }
          | none => c
    (c.resetTimer, some t.task)

def peek (c : Cron) : Option Task := c.head.map (·.task)

def schedule (c : Cron) : List Task := (sorted c.pending).map (·.task)

def nextScheduled (c : Cron) : Time × Bool :=
  match c.head with
  | some h => (h.task.scheduledAt, true)
  | none => (0, false)

end Cron
end Gk
