/-
C09 — dispatch result protocol; cancellation and deadline reach the work function.
Theorems over `Disp.exec` (M7), for every combination of fetch outcome, registry content, deadline,
work-function behaviour and cancellation instant (240 combinations). `Disp.exec_true` is `exec` in closed
form, proved by case analysis along the branches of `exec`; each property is a reading of it.
-/
import Gk.Disp
namespace Gk
open Disp

/-- the value a successful dispatch must deliver -/
def Disp.expectedValue (c : Case) : Val :=
  if !c.registered then .notFound                       -- no function registered
  else if c.cancel = .duringFetch then .ctx             -- the dispatch context ended before the work began
  else match c.beh with
    | .retNil => .nil
    | .retErr => .workErr
    | .panic => .panicErr
    | .block => if c.dl = .past then .deadline else if c.cancel = .running then .ctx else .deadline

/-- the sweep over all 240 inputs, each by evaluation (not used by the theorems below, which are read off
`exec_true`) -/
local macro "all_cases" c:ident : tactic =>
  `(tactic| (rcases $c:ident with ⟨f, r, d, b, ca⟩; cases f <;> cases r <;> cases d <;> cases b <;> cases ca <;> decide))

/-- `exec true` in closed form: the two early exits of `Dispatch`, and otherwise exactly one value on a
closed channel. Proved along the branches of `exec` (21 leaves); the theorems below are read off it. -/
theorem Disp.exec_true (c : Case) :
    exec true c =
      if c.cancel = .beforeDispatch ∨ c.cancel = .waitingWorker then { none_ with dispatchErr := some .ctx }
      else if c.fetch = .err then { none_ with dispatchErr := some .fetchErr, fetchCalled := true }
      else
        let inv := c.registered && c.cancel != .duringFetch
        { none_ with fetchCalled := true, closed := true, values := [expectedValue c], invoked := inv,
                     sawDeadline := inv && c.dl != .none, sawCancel := inv && c.cancel == .running } := by
  rcases c with ⟨f, r, d, b, ca⟩
  cases ca
  case beforeDispatch | waitingWorker => rfl
  all_goals
    cases f
    case err => rfl
    cases r
    case false => rfl
    cases b <;> cases d <;> rfl

/-- Every successful dispatch delivers exactly one result and then closes the channel. -/
theorem C09_success_one_then_closed (c : Case) :
    (exec true c).dispatchErr = none → (exec true c).values.length = 1 ∧ (exec true c).closed = true := by
  rw [exec_true]; split
  · simp [none_]
  · split <;> simp [none_]

/-- … and that one result is the work function's return value / work-id-not-found / the cancellation
error if the dispatch context ended before the work began / an error if the work function panicked. -/
theorem C09_value (c : Case) :
    (exec true c).dispatchErr = none → (exec true c).values = [Disp.expectedValue c] := by
  rw [exec_true]; split
  · simp [none_]
  · split <;> simp [none_]

/-- A failed dispatch (fetch error, or cancellation before / while waiting for a worker) never invokes
the work function and delivers nothing. -/
theorem C09_failed_dispatch_never_invokes (c : Case) :
    (exec true c).dispatchErr ≠ none → (exec true c).invoked = false ∧ (exec true c).values = [] := by
  rw [exec_true]; split
  · simp [none_]
  · split <;> simp [none_]

/-- Which dispatches fail, and with what. -/
theorem C09_dispatch_error (c : Case) :
    (exec true c).dispatchErr =
      (if c.cancel = .beforeDispatch ∨ c.cancel = .waitingWorker then some .ctx
       else if c.fetch = .err then some .fetchErr else none) := by
  rw [exec_true]; split
  · rfl
  · split <;> rfl

/-- The fetcher is not even called when the dispatch was cancelled before a worker took it;
a fetch error short-circuits before the registry lookup. -/
theorem C09_fetch_error_short_circuits (c : Case) :
    ((c.cancel = .beforeDispatch ∨ c.cancel = .waitingWorker) → (exec true c).fetchCalled = false) ∧
    (c.fetch = .err → (exec true c).invoked = false) := by
  rw [exec_true]; split
  · simp_all [none_]
  · split <;> simp_all [none_]

/-- The work function runs iff the dispatch succeeded, a function is registered and the context was
still live when the work was about to begin. -/
theorem C09_invoked_iff (c : Case) :
    (exec true c).invoked = true ↔
      ((exec true c).dispatchErr = none ∧ c.registered = true ∧ c.cancel ≠ .duringFetch) := by
  rw [exec_true]; split
  · simp [none_]
  · split <;> simp [none_]

/-- Cancellation of the dispatch context and the task's deadline are visible through the work context. -/
theorem C09_ctx_visible (c : Case) :
    (exec true c).invoked = true →
      ((c.cancel = .running → (exec true c).sawCancel = true) ∧
       (c.dl ≠ .none → (exec true c).sawDeadline = true)) := by
  rw [exec_true]; split
  · simp_all [none_]
  · split <;> simp_all [none_]

/-- D5: in the pinned source a panicking work function closes the channel without a value. -/
theorem C09_D5_witness :
    (exec false ⟨.ok, true, .none, .panic, .never⟩).dispatchErr = none ∧
    (exec false ⟨.ok, true, .none, .panic, .never⟩).values = [] ∧
    (exec false ⟨.ok, true, .none, .panic, .never⟩).closed = true ∧
    (exec true ⟨.ok, true, .none, .panic, .never⟩).values = [.panicErr] := by decide

/-- non-vacuity: a successful, an unsuccessful and a cancelled-before-start case exist -/
example : (exec true ⟨.ok, true, .future, .retErr, .running⟩).dispatchErr = none ∧
    (exec true ⟨.err, true, .none, .retNil, .never⟩).dispatchErr ≠ none ∧
    (exec true ⟨.ok, true, .none, .retNil, .duringFetch⟩).values = [.ctx] := by decide

end Gk
