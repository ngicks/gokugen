/-
C18 — mutators (`/repo/mutator`): label decoding is total with an exact error condition, the
transcribed `crypto/rand.Int` loop only ever returns values in `[0, max)`, the repaired
`RandomizeScheduledAt.Mutate` never panics on its argument and always lands inside the window,
`ScheduleAtNow` sets the normalised clock reading, and what reaches the repository is ms-normalised
and still inside the window.  Witnesses for D11 / D11b on the original (`fixed = false`) code.

`|max - min|` is written `((max - min).natAbs : Int)` (core Lean has no `|·|` notation).
-/
import Gk.Basic
import Gk.Query
import Gk.Mut
import Gk.Proofs.Mut
namespace Gk
open Gk.Mut

/-! `decodeRandomize` and `load` are total Lean functions (no `partial`, no `panic`), so the Go decoder's
"never panics, returns exactly one of value / error" is by construction. -/

theorem C18_rejected_def (m : SMap) (lbl : String) (o : ParseOracle) :
    rejected m lbl o ↔ ∃ v, SMap.lookup m lbl = some v ∧ v ≠ "" ∧ o.dur = none ∧ o.int = none :=
  Iff.rfl

/-- `parseDur` fails iff the value is non-empty and both parsers reject it. -/
theorem C18_parseDur_error (s : String) (o : ParseOracle) :
    parseDur s o = none ↔ s ≠ "" ∧ o.dur = none ∧ o.int = none :=
  parseDur_eq_none

theorem C18_decode_error (m : SMap) (oMin oMax : ParseOracle) :
    decodeRandomize m oMin oMax = .error () ↔
      rejected m labelMin oMin ∨ rejected m labelMax oMax :=
  decode_error_iff m oMin oMax

/-- `Load` errs iff the meta map is non-empty and a present, non-empty randomize label is rejected
by both `time.ParseDuration` and `strconv.ParseInt`. -/
theorem C18_decode_total (m : SMap) (oMin oMax : ParseOracle) :
    load m oMin oMax = .error () ↔
      m ≠ [] ∧ (rejected m labelMin oMin ∨ rejected m labelMax oMax) := by
  rw [← decode_error_iff]
  unfold load
  cases m with
  | nil => simp
  | cons kv m =>
    simp only [List.isEmpty_cons, Bool.false_eq_true, if_false, ne_eq, reduceCtorEq,
      not_false_eq_true, true_and]
    cases hd : decodeRandomize (kv :: m) oMin oMax with
    | error e => simp
    | ok r => cases r <;> simp

/-- Both labels absent: decoding yields "no mutator", and `Load` succeeds with at most the
`ScheduleAtNow` mutator — never a randomize mutator. -/
theorem C18_decode_absent (m : SMap) (oMin oMax : ParseOracle)
    (hmn : SMap.lookup m labelMin = none) (hmx : SMap.lookup m labelMax = none) :
    decodeRandomize m oMin oMax = .ok none ∧
    load m oMin oMax = .ok (if (SMap.lookup m labelNow).isSome then [Mutator.now] else []) ∧
    ∀ l, load m oMin oMax = .ok l → ∀ x ∈ l, x = Mutator.now := by
  have hd := decode_none_none (oMin := oMin) (oMax := oMax) hmx hmn
  have hl : load m oMin oMax =
      .ok (if (SMap.lookup m labelNow).isSome then [Mutator.now] else []) := by
    unfold load
    cases m with
    | nil => simp [SMap.lookup]
    | cons kv m => simp [hd]
  refine ⟨hd, hl, ?_⟩
  intro l h x hx
  rw [hl] at h
  injection h with h
  subst h
  split at hx <;> simp at hx
  exact hx

/-- Only the min label present: the max bound is 0. -/
theorem C18_decode_only_min (m : SMap) (oMin oMax : ParseOracle) (s : String) (v : Int)
    (hmx : SMap.lookup m labelMax = none) (hmn : SMap.lookup m labelMin = some s)
    (hp : parseDur s oMin = some v) :
    decodeRandomize m oMin oMax = .ok (some (.randomize v 0)) := by
  rw [decode_none_some hmx hmn, hp]

/-- Only the max label present: the min bound is 0. -/
theorem C18_decode_only_max (m : SMap) (oMin oMax : ParseOracle) (s : String) (v : Int)
    (hmx : SMap.lookup m labelMax = some s) (hmn : SMap.lookup m labelMin = none)
    (hp : parseDur s oMax = some v) :
    decodeRandomize m oMin oMax = .ok (some (.randomize 0 v)) := by
  rw [decode_some_none hmx hmn, hp]

/-- Both labels present and accepted. -/
theorem C18_decode_both (m : SMap) (oMin oMax : ParseOracle) (sn sx : String) (vn vx : Int)
    (hmx : SMap.lookup m labelMax = some sx) (hmn : SMap.lookup m labelMin = some sn)
    (hpn : parseDur sn oMin = some vn) (hpx : parseDur sx oMax = some vx) :
    decodeRandomize m oMin oMax = .ok (some (.randomize vn vx)) := by
  rw [decode_some_some hmx hmn, hpx, hpn]

/-- A present but empty label value is the bound 0 (never an error). -/
theorem C18_parseDur_empty (o : ParseOracle) : parseDur "" o = some 0 := parseDur_empty o

/-- `Load` appends the decoded randomize mutator after the optional `ScheduleAtNow`. -/
theorem C18_load_some (m : SMap) (oMin oMax : ParseOracle) (mu : Mutator)
    (hd : decodeRandomize m oMin oMax = .ok (some mu)) (hne : m ≠ []) :
    load m oMin oMax =
      .ok ((if (SMap.lookup m labelNow).isSome then [Mutator.now] else []) ++ [mu]) := by
  unfold load
  cases m with
  | nil => exact absurd rfl hne
  | cons kv m => simp [hd]

theorem C18_randint_range (max : Int) (bytes : List Nat) :
    (∀ n rest, randInt max bytes = .val n rest → 0 < max ∧ (n : Int) < max ∧ rest <:+ bytes) ∧
    (randInt max bytes = .panic ↔ max ≤ 0) ∧
    (∀ (n : Nat) rest, max ≤ (n : Int) → randInt max bytes ≠ .val n rest) := by
  refine ⟨fun n rest h => randInt_val h, randInt_panic_iff max bytes, ?_⟩
  intro n rest hge h
  have := (randInt_val h).2.1
  omega

/-- `max = 1`: the only value is 0 and no byte is consumed. -/
theorem C18_randint_one (bytes : List Nat) : randInt 1 bytes = .val 0 bytes := randInt_one bytes

/-- The loop itself: any accepted value is `< max`, and it never panics. -/
theorem C18_randloop_range (max k b fuel : Nat) (bytes : List Nat) :
    (∀ n rest, randLoop max k b fuel bytes = .val n rest → n < max ∧ rest <:+ bytes) ∧
    randLoop max k b fuel bytes ≠ .panic :=
  ⟨fun _ _ h => randLoop_val fuel bytes h, randLoop_ne_panic fuel bytes⟩

theorem C18_mutate_panic_iff (min max : Int) (p : Param) (bytes : List Nat) :
    mutateRandomize true min max p bytes = .panic ↔
      min ≠ max ∧ randInt ((max - min).natAbs : Int) bytes = .eof :=
  mutate_fixed_panic_iff min max p bytes

/-- The only way the repaired code panics is the random source running dry. -/
theorem C18_mutate_no_panic (min max : Int) (p : Param) (bytes : List Nat)
    (h : mutateRandomize true min max p bytes = .panic) :
    min ≠ max ∧ randInt ((max - min).natAbs : Int) bytes = .eof :=
  (C18_mutate_panic_iff min max p bytes).mp h

/-- The argument handed to `rand.Int` by the repaired code is never rejected as non-positive. -/
theorem C18_mutate_arg_pos (min max : Int) (bytes : List Nat) (h : min ≠ max) :
    randInt ((max - min).natAbs : Int) bytes ≠ .panic := by
  intro hp
  have := (randInt_panic_iff _ _).1 hp
  omega

/-- Degenerate window: no panic for any byte list (even `[]`), no byte consumed, offset = `min`. -/
theorem C18_mutate_degenerate (min : Int) (p : Param) (bytes : List Nat) :
    mutateRandomize true min min p bytes =
      .ok { p with scheduledAt := some (p.scheduledAt.getD 0 + min) } bytes := by
  rw [mutateRandomize_fixed]; simp

theorem C18_window (min max : Int) (p p' : Param) (bytes rest : List Nat)
    (h : mutateRandomize true min max p bytes = .ok p' rest) :
    let orig := p.scheduledAt.getD 0
    let off := p'.scheduledAt.getD 0 - orig
    p'.scheduledAt.isSome = true ∧
    (min = max → off = min) ∧
    (min < max → min ≤ off ∧ off < max) ∧
    (max < min → max < off ∧ off ≤ min) ∧
    (p'.workId = p.workId ∧ p'.priority = p.priority ∧ p'.param = p.param ∧
      p'.meta_ = p.meta_ ∧ p'.deadline = p.deadline) ∧
    rest <:+ bytes := by
  obtain ⟨off, rfl, hsuf, h1, h2, h3⟩ := mutate_fixed_ok h
  intro orig off'
  rw [show off' = off from int_add_sub_cancel_left _ _]
  exact ⟨rfl, h1, h2, h3, ⟨rfl, rfl, rfl, rfl, rfl⟩, hsuf⟩

/-- Same fact as a record equation. -/
theorem C18_window_record (min max : Int) (p p' : Param) (bytes rest : List Nat)
    (h : mutateRandomize true min max p bytes = .ok p' rest) :
    p' = { p with scheduledAt := p'.scheduledAt } := by
  obtain ⟨off, rfl, -⟩ := mutate_fixed_ok h
  rfl

theorem C18_now (now : Time) (p : Param) :
    (mutateNow now p).scheduledAt = some (normalize now) ∧
    mutateNow now p = { p.normalize with scheduledAt := some (normalize now) } ∧
    ((mutateNow now p).workId = p.normalize.workId ∧
      (mutateNow now p).priority = p.normalize.priority ∧
      (mutateNow now p).param = p.normalize.param ∧
      (mutateNow now p).meta_ = p.normalize.meta_ ∧
      (mutateNow now p).deadline = p.normalize.deadline) :=
  ⟨rfl, rfl, rfl, rfl, rfl, rfl, rfl⟩

theorem C18_apply_now_then_randomize (mn mx : Int) (now : Time) (p p' : Param)
    (bytes rest : List Nat)
    (h : apply true now [.now, .randomize mn mx] p bytes = .ok p' rest) :
    let off := p'.scheduledAt.getD 0 - normalize now
    p'.scheduledAt.isSome = true ∧
    (mn = mx → off = mn) ∧
    (mn < mx → mn ≤ off ∧ off < mx) ∧
    (mx < mn → mx < off ∧ off ≤ mn) ∧
    (p'.workId = p.normalize.workId ∧ p'.priority = p.normalize.priority ∧
      p'.param = p.normalize.param ∧ p'.meta_ = p.normalize.meta_ ∧
      p'.deadline = p.normalize.deadline) ∧
    rest <:+ bytes :=
  C18_window mn mx (mutateNow now p) p' bytes rest (apply_now_randomize .. ▸ h)

/-- `apply` on that list panics only when the random source runs dry. -/
theorem C18_apply_now_then_randomize_panic (mn mx : Int) (now : Time) (p : Param)
    (bytes : List Nat) (h : apply true now [.now, .randomize mn mx] p bytes = .panic) :
    mn ≠ mx ∧ randInt ((mx - mn).natAbs : Int) bytes = .eof :=
  C18_mutate_no_panic mn mx _ bytes (apply_now_randomize .. ▸ h)

/-- `ToTask` after `Normalize` stores the ms-truncation of the mutated time (for every `p`). -/
theorem C18_store_scheduledAt (p : Param) (id : String) (now : Time) :
    (p.normalize.toTask id now).scheduledAt = normalize (p.scheduledAt.getD 0) := by
  rw [Param.toTask_scheduledAt, Param.normalize_scheduledAt, getD_map_normalize]

theorem C18_normalized_at_store (min max : Int) (p p' : Param) (bytes rest : List Nat)
    (id : String) (now : Time) (hle : min ≤ max)
    (h : mutateRandomize true min max p bytes = .ok p' rest) :
    let orig := p.scheduledAt.getD 0
    normalize (orig + min) ≤ normalize (p'.scheduledAt.getD 0) ∧
    normalize (p'.scheduledAt.getD 0) ≤ orig + max ∧
    (p'.normalize.toTask id now).scheduledAt = normalize (p'.scheduledAt.getD 0) ∧
    isNorm (p'.normalize.toTask id now).scheduledAt = true := by
  obtain ⟨_, h1, h2, _, _, _⟩ := C18_window min max p p' bytes rest h
  have hb := window_bounds _ _ min max hle h1 h2
  refine ⟨normalize_mono hb.1, Int.le_trans (normalize_le_self _) hb.2,
    C18_store_scheduledAt p' id now, ?_⟩
  rw [C18_store_scheduledAt]
  exact isNorm_normalize' _

/-- For a proper window the stored value is strictly below `orig + max`. -/
theorem C18_normalized_at_store_lt (min max : Int) (p p' : Param) (bytes rest : List Nat)
    (hlt : min < max) (h : mutateRandomize true min max p bytes = .ok p' rest) :
    normalize (p'.scheduledAt.getD 0) < p.scheduledAt.getD 0 + max := by
  obtain ⟨_, _, h2, _, _, _⟩ := C18_window min max p p' bytes rest h
  exact window_store_lt _ _ min max (h2 hlt)

deriving instance DecidableEq for MutOut
deriving instance DecidableEq for Except

/-- D11: `min = max` makes the original code call `rand.Int(_, 0)`, which panics — although the
byte source is non-empty. -/
theorem C18_D11_witness :
    mutateRandomize false 7000000 7000000
      { workId := some "w", scheduledAt := some 1700000000000000000 } [1, 2, 3] = .panic := by
  decide

/-- The repaired code on the same input: offset exactly `min`, no byte consumed. -/
theorem C18_D11_fixed :
    mutateRandomize true 7000000 7000000
      { workId := some "w", scheduledAt := some 1700000000000000000 } [1, 2, 3] =
      .ok { workId := some "w", scheduledAt := some 1700000000007000000 } [1, 2, 3] := by
  decide

/-- D11b: `max - min = 2^63 + 1` wraps to a negative int64, so the draw is *subtracted*. -/
theorem C18_D11b_witness_eq :
    mutateRandomize false (-2) 9223372036854775807 {} [0x7f, 0, 0, 0, 0, 0, 0, 1] =
      .ok { scheduledAt := some (-9151314442816847875) } [] := by
  decide

theorem C18_D11b_witness :
    ∃ p' rest,
      mutateRandomize false (-2) 9223372036854775807 {} [0x7f, 0, 0, 0, 0, 0, 0, 1] = .ok p' rest ∧
      let off := p'.scheduledAt.getD 0 - (({} : Param).scheduledAt.getD 0)
      ¬ ((-2 : Int) ≤ off ∧ off < 9223372036854775807) ∧ off < -2 :=
  ⟨_, _, C18_D11b_witness_eq, by decide⟩

/-- The repaired code on the D11b input lands inside the window. -/
theorem C18_D11b_fixed :
    mutateRandomize true (-2) 9223372036854775807 {} [0x7f, 0, 0, 0, 0, 0, 0, 1] =
      .ok { scheduledAt := some 9151314442816847871 } [] := by
  decide

/-- The draw `250` is rejected (`≥ 200`), `100` is accepted, `7` is left unread. -/
example : randInt 200 [250, 100, 7] = .val 100 [7] := by decide

example :
    mutateRandomize true 0 200 { scheduledAt := some 5000 } [250, 100, 7] =
      .ok { scheduledAt := some 5100 } [7] := by decide

/-- The hypothesis of `C18_window` is satisfiable with a rejected-then-accepted draw, and its
conclusion gives the expected bounds. -/
example :
    (0 : Int) ≤ 5100 - 5000 ∧ (5100 - 5000 : Int) < 200 := by
  have h := C18_window 0 200 { scheduledAt := some 5000 } { scheduledAt := some 5100 }
    [250, 100, 7] [7] (by decide)
  exact h.2.2.1 (by decide)

/-- Reversed window `max < min`: the draw is subtracted from `min`. -/
example :
    mutateRandomize true 300 100 { scheduledAt := some 5000 } [250, 100, 7] =
      .ok { scheduledAt := some 5200 } [7] := by decide

example : (100 : Int) < 5200 - 5000 ∧ (5200 - 5000 : Int) ≤ 300 := by
  have h := C18_window 300 100 { scheduledAt := some 5000 } { scheduledAt := some 5200 }
    [250, 100, 7] [7] (by decide)
  exact h.2.2.2.1 (by decide)

/-- Panic of the repaired code really happens, and only because the source ran dry: the single
draw `250` is rejected and nothing is left. -/
example :
    mutateRandomize true 0 200 { scheduledAt := some 5000 } [250] = .panic ∧
    randInt 200 [250] = .eof := by decide

example : randInt (((200 : Int) - 0).natAbs : Int) [250] = .eof :=
  (C18_mutate_no_panic 0 200 { scheduledAt := some 5000 } [250] (by decide)).2

/-- Rejected, then accepted, through `apply` with `ScheduleAtNow` first. -/
example :
    apply true 1700000000123456789 [.now, .randomize 0 200] {} [250, 100, 7] =
      .ok { scheduledAt := some 1700000000123000100 } [7] := by decide

/-- Decoding: a rejected label is an error, an absent pair is no mutator. -/
example :
    load [(labelMin, "abc")] { dur := none, int := none } { dur := none, int := none } =
      .error () := by decide

example :
    load [(labelNow, ""), (labelMax, "1s")] default { dur := some 1000000000, int := none } =
      .ok [.now, .randomize 0 1000000000] := by decide

end Gk
