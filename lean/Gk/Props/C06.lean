/-
C06 — outcomes are recorded faithfully and every completion is reported once.
-/
import Gk.Proofs.World
import Gk.Proofs.SchedEq
namespace Gk
open World WP

theorem C06_counts (t0 : Time) (acts : List Act) (hs : (init t0).Script acts) (x : String) :
    let w := (init t0).run acts
    (w.running.map (·.1)).count x + (w.completed.map (·.1)).count x + (w.reported.map (·.1)).count x ≤ 1 ∧
    (x ∉ w.log.map (·.id) →
      (w.running.map (·.1)).count x + (w.completed.map (·.1)).count x + (w.reported.map (·.1)).count x = 0) :=
  (Inv_run (Inv_init t0) hs).counts x

/-- Step's result branch receives the completion of a work function at most once. -/
theorem C06_reported_once (t0 : Time) (acts : List Act) (hs : (init t0).Script acts) :
    (((init t0).run acts).reported.map (·.1)).Nodup := by
  rw [List.nodup_iff_count]
  intro x
  have := (C06_counts t0 acts hs x).1
  omega

/-- An id is in at most one of `running`, `completed`, `reported`, in each at most once, and only if
its work function was started. -/
theorem C06_running_completed_disjoint (t0 : Time) (acts : List Act) (hs : (init t0).Script acts) :
    let w := (init t0).run acts
    (w.running.map (·.1)).Nodup ∧ (w.completed.map (·.1)).Nodup ∧
    (∀ x ∈ w.running.map (·.1), x ∉ w.completed.map (·.1) ∧ x ∉ w.reported.map (·.1)) ∧
    (∀ x ∈ w.completed.map (·.1), x ∉ w.reported.map (·.1)) ∧
    (∀ x, x ∈ w.running.map (·.1) ∨ x ∈ w.completed.map (·.1) ∨ x ∈ w.reported.map (·.1) →
      x ∈ w.log.map (·.id)) := by
  have hc := C06_counts t0 acts hs
  -- membership is a positive count: each of the five claims is arithmetic on `hc x`
  simp only [List.nodup_iff_count, ← List.count_pos_iff] at hc ⊢
  refine ⟨fun x => ?_, fun x => ?_, fun x => ?_, fun x => ?_, fun x => ?_⟩
  all_goals
    have := hc x
    omega

/-- the two places the scheduler calls `MarkAsDone` from -/
def C06.atMarkDone (w : World) (id : String) (o : Outcome) : Prop :=
  w.pc = .s_markDone id o ∨ w.pc = .r_markDone id o

/-- the stored task records outcome `o` -/
def C06.recorded (o : Outcome) (t : Task) : Prop :=
  match o with
  | .nil => t.state = .done
  | .err msg => t.state = .err ∧ t.err = msg
  | .ctxCanceled => t.state = .err ∧ t.err = "context canceled"

/-- **Faithful.** When the scheduler's `MarkAsDone` takes effect (fault `.none` / `.after`, context
alive) on a dispatched task, the task is stored as `done` for outcome nil, as `err` with exactly the
error text for outcome `err msg`; nothing else about the task changes except `doneAt`. The returned
state is an error state iff the call reported an error (`.after`). -/
theorem C06_markdone_faithful (w : World) (hwf : w.obs.repo.WF) (id : String) (o : Outcome) (f : Fault)
    (t : Task) (hpc : C06.atMarkDone w id o) (hl : w.obs.repo.lookup id = some t)
    (hd : t.state = .dispatched) (hf : f ≠ .before) (hc : w.ctxDone = false) :
    let w' := (w.sched (.markDone f)).1
    w'.obs.repo.lookup id = some (doneTask w.obs.clock.now (outcomeErr o) t) ∧
    C06.recorded o (doneTask w.obs.clock.now (outcomeErr o) t) ∧
    w'.pc = .idle ∧
    (f = .after → w'.ret = .taskDone id o (some .other)) ∧
    (f = .none → w'.ret = (if w.pc = .s_markDone id o then .taskDone id o none else .zero)) := by
  have hb : (f == Fault.before) = false := by simpa using hf
  have hstep : Repo.step {} w.obs.repo w.obs.clock.now (.done id (outcomeErr o)) =
      (w.obs.repo.replace id (doneTask w.obs.clock.now (outcomeErr o)), .ok) := by
    rw [done_spec' hwf, hl]; simp only [hd]
  have hlk := (Edit.done (now := w.obs.clock.now) id (outcomeErr o)).lookup_hit {} hl hd
  rw [hstep] at hlk
  have hrec : C06.recorded o (doneTask w.obs.clock.now (outcomeErr o) t) := by
    cases o with
    | nil => rfl
    | err | ctxCanceled => exact ⟨rfl, rfl⟩
  rcases hpc with hpc | hpc
  · rw [World.sched_markDone hpc]
    simp only [hpc, hb, hc, hstep, Bool.false_eq_true, if_false, if_true]
    exact ⟨hlk, hrec, rfl, by rintro rfl; rfl, by rintro rfl; rfl⟩
  · rw [World.sched_rmarkDone hpc]
    simp only [hpc, hb, hc, hstep, Bool.false_eq_true, if_false, reduceCtorEq]
    cases f with
    | before => exact absurd rfl hf
    | none => exact ⟨hlk, hrec, rfl, nofun, fun _ => rfl⟩
    | after => exact ⟨hlk, hrec, rfl, fun _ => rfl, nofun⟩

/-- **Nothing stored on failure.** With fault `.before`, or with a cancelled context, the repository is
untouched and the scheduler returns `TaskDone(id, o, some _)` — an error state carrying the outcome,
so that `Retry` applies it again. -/
theorem C06_markdone_failed_keeps_outcome (w : World) (id : String) (o : Outcome) (f : Fault)
    (hpc : C06.atMarkDone w id o) (hf : f = .before ∨ w.ctxDone = true) :
    let w' := (w.sched (.markDone f)).1
    w'.obs.repo = w.obs.repo ∧ w'.pc = .idle ∧ ∃ e, w'.ret = .taskDone id o (some e) := by
  have hif : (f == Fault.before) = true ∨ ((f == Fault.before) = false ∧ w.ctxDone = true) := by
    cases f <;> first | exact .inl rfl | exact .inr ⟨rfl, hf.resolve_left nofun⟩
  rcases hpc with hpc | hpc
  · rw [World.sched_markDone hpc]
    rcases hif with h | ⟨h, hc⟩
    · rw [if_pos h]; exact ⟨rfl, rfl, _, rfl⟩
    · rw [if_neg (by rw [h]; nofun), if_pos hc]; exact ⟨rfl, rfl, _, rfl⟩
  · rw [World.sched_rmarkDone hpc]
    rcases hif with h | ⟨h, hc⟩
    · rw [if_pos h]; exact ⟨rfl, rfl, _, rfl⟩
    · rw [if_neg (by rw [h]; nofun), if_pos hc]; exact ⟨rfl, rfl, _, rfl⟩

/-- `Retry` picks the outcome up again: from `TaskDone(id, o, _)` it calls `MarkAsDone(id, o)`. -/
theorem C06_retry_reapplies (w : World) (id : String) (o : Outcome) (e : Option Err)
    (hpc : w.pc = .idle) (hr : w.ret = .taskDone id o e) :
    (w.sched .beginRetry).1.pc = .r_markDone id o ∧ (w.sched .beginRetry).1.obs.repo = w.obs.repo := by
  rw [World.sched_beginRetry_done hpc hr]
  exact ⟨rfl, rfl⟩

/-- `Retry`'s `MarkAsDone` tolerates `alreadyDone`: if the outcome is already recorded (the failed
attempt took effect, fault `.after`) the repository is untouched and `Retry` succeeds. -/
theorem C06_retry_tolerates_already_done (w : World) (hwf : w.obs.repo.WF) (id : String) (o : Outcome)
    (t : Task) (hpc : w.pc = .r_markDone id o) (hl : w.obs.repo.lookup id = some t)
    (hd : t.state = .done ∨ t.state = .err) (hc : w.ctxDone = false) :
    let w' := (w.sched (.markDone .none)).1
    w'.obs.repo = w.obs.repo ∧ w'.pc = .idle ∧ w'.ret = .zero := by
  have hstep : Repo.step {} w.obs.repo w.obs.clock.now (.done id (outcomeErr o)) =
      (w.obs.repo, .err .alreadyDone) := by
    rw [done_spec' hwf, hl]; rcases hd with hd | hd <;> simp only [hd]
  rw [World.sched_rmarkDone hpc]
  simp only [hc, hstep, Bool.false_eq_true, if_false]
  exact ⟨rfl, rfl, rfl⟩

/-- **Dispatcher cancellation.** A completion with outcome `context.Canceled` makes no repository call:
the task stays as it is (dispatched) and the state `TaskDone(id, Canceled, nil)` is returned. -/
theorem C06_cancel_left_dispatched (w : World) (id x : String) (hpc : w.pc = .s_select)
    (hfind : w.completed.find? (·.1 == id) = some (x, .ctxCanceled)) :
    let w' := (w.sched (.selResult id)).1
    w'.obs.repo = w.obs.repo ∧ w'.pc = .idle ∧ w'.ret = .taskDone id .ctxCanceled none ∧
    w'.reported = w.reported ++ [(id, .ctxCanceled)] := by
  rw [World.sched_selResult hpc, hfind]
  exact ⟨rfl, rfl, rfl, rfl⟩

/-- … and it is still dispatched there: a task whose work function was started and whose outcome has
not been recorded is stored in state dispatched, done or err at every moment (C04), and no user
operation can change a dispatched task. -/
theorem C06_started_never_rescheduled (t0 : Time) (acts : List Act) (hs : (init t0).Script acts) :
    ∀ e ∈ ((init t0).run acts).log, ∃ t, ((init t0).run acts).obs.repo.lookup e.id = some t ∧
      t.state ≠ .scheduled ∧ t.state ≠ .cancelled := by
  intro e he
  obtain ⟨_, _, t, hl, hst⟩ := (Inv_run (Inv_init t0) hs).logged e he
  refine ⟨t, hl, ?_, ?_⟩ <;> (intro h; rw [h] at hst; simp [started] at hst)

/-- the outcomes `Step` reports are the ones the work functions delivered -/
theorem C06_reported_from_complete (t0 : Time) (acts : List Act) :
    ∀ p ∈ ((init t0).run acts).reported, Act.complete p.1 p.2 ∈ acts := fun p hp =>
  -- initially nothing is queued, nothing reported
  (lists_run (init t0) acts p (.inr hp)).elim nofun (·.elim nofun id)

/-- **Recorded at quiescence.** Assume the driver's retry discipline (`World.RetryDiscipline`): a `Step`
is never begun while the last returned state is a `TaskDone` whose `MarkAsDone` failed — such a state
is handed to `Retry`, as often as needed — and `TaskDone(id, Canceled, _)` is never handed to `Retry`.
Whenever the scheduler is then idle and its last returned state is not an error state, every
completion it has reported is recorded faithfully: `done` for nil, `err` with the very message for an
error, and left `dispatched` for a dispatcher cancellation. If moreover no work function is running
and no completion is waiting in the queue, this covers every work function that was ever started. -/
theorem C06_recorded_at_quiescence (t0 : Time) (acts : List Act) (hs : (init t0).Script acts)
    (hr : (init t0).RetryDiscipline acts)
    (hpc : ((init t0).run acts).pc = .idle) (he : ((init t0).run acts).ret.err = none) :
    (∀ id o, (id, o) ∈ ((init t0).run acts).reported →
      ∃ t, ((init t0).run acts).obs.repo.lookup id = some t ∧ recordedQ o t) ∧
    (((init t0).run acts).running = [] → ((init t0).run acts).completed = [] →
      ∀ e ∈ ((init t0).run acts).log, ∃ o, (e.id, o) ∈ ((init t0).run acts).reported ∧
        Act.complete e.id o ∈ acts) := by
  have hQ := QInv_run (Inv_init t0) (QInv_init t0) hs hr
  refine ⟨hQ.recorded hpc he, fun h1 h2 e hel => ?_⟩
  obtain ⟨o, ho⟩ := hQ.reported h1 h2 e hel
  exact ⟨o, ho, C06_reported_from_complete t0 acts _ ho⟩

namespace C06

def t0 : Time := 63808128000000000000
def sec : Time := 1000000000
def pT : Param := { workId := some "w", scheduledAt := some (t0 + 10 * sec) }

def started : List Act :=
  [ .user .start none, .user (.add "t" pT) none, .advance (t0 + 40 * sec),
    .sched .beginStep, .sched .lastTimerErr, .sched .selTimer, .sched (.getNext .none),
    .sched .nextScheduled,
    .sched .beginStep, .sched .lastTimerErr, .sched (.waitWorker true),
    .sched (.markDispatched .none none), .sched (.getById .none) ]

/-- the work function fails with "boom"; the first `MarkAsDone` fails before taking effect, `Retry`'s
fails after taking effect, the second `Retry` sees `alreadyDone` and succeeds -/
def failAndRetry : List Act :=
  started ++
  [ .complete "t" (.err "boom"),
    .sched .beginStep, .sched .lastTimerErr, .sched (.selResult "t"), .sched (.markDone .before),
    .sched .beginRetry, .sched (.markDone .after),
    .sched .beginRetry, .sched (.markDone .none) ]

def cancelled : List Act :=
  started ++
  [ .complete "t" .ctxCanceled, .sched .beginStep, .sched .lastTimerErr, .sched (.selResult "t") ]

end C06

example :
    (init C06.t0).Script C06.failAndRetry ∧
    ((init C06.t0).run C06.failAndRetry).reported = [("t", .err "boom")] ∧
    (((init C06.t0).run C06.failAndRetry).obs.repo.lookup "t").map (fun t => (t.state, t.err))
      = some (.err, "boom") ∧
    ((init C06.t0).run C06.failAndRetry).ret = .zero ∧
    ((init C06.t0).run (C06.failAndRetry.take 18)).ret = .taskDone "t" (.err "boom") (some .other) ∧
    ((init C06.t0).run (C06.failAndRetry.take 20)).ret = .taskDone "t" (.err "boom") (some .other) := by
  decide

/-- non-vacuity of `C06_recorded_at_quiescence`: the script with two failed `MarkAsDone` calls obeys the
retry discipline and ends quiescent with the outcome recorded -/
example :
    (init C06.t0).Script C06.failAndRetry ∧ (init C06.t0).RetryDiscipline C06.failAndRetry ∧
    ((init C06.t0).run C06.failAndRetry).pc = .idle ∧
    ((init C06.t0).run C06.failAndRetry).ret.err = none ∧
    ((init C06.t0).run C06.failAndRetry).running = [] ∧
    ((init C06.t0).run C06.failAndRetry).completed = [] ∧
    ((init C06.t0).run C06.failAndRetry).log.length = 1 := by
  decide

/-- the discipline is needed: if the failed `TaskDone` is abandoned (a new `Step` instead of `Retry`)
the outcome is lost — the task stays dispatched although the scheduler is idle without error -/
example :
    let s := C06.started ++
      [ .complete "t" (.err "boom"),
        .sched .beginStep, .sched .lastTimerErr, .sched (.selResult "t"), .sched (.markDone .before),
        .sched .beginStep, .sched .lastTimerErr, .sched .selCtx, .sched .beginRetry ]
    (init C06.t0).Script s ∧ ¬ (init C06.t0).RetryDiscipline s ∧
    ((init C06.t0).run s).pc = .idle ∧ ((init C06.t0).run s).ret.err = none ∧
    ((init C06.t0).run s).reported = [("t", .err "boom")] ∧
    (((init C06.t0).run s).obs.repo.lookup "t").map (·.state) = some .dispatched := by
  decide

example :
    (init C06.t0).Script C06.cancelled ∧
    ((init C06.t0).run C06.cancelled).ret = .taskDone "t" .ctxCanceled none ∧
    (((init C06.t0).run C06.cancelled).obs.repo.lookup "t").map (·.state) = some .dispatched := by
  decide

/-- OBSERVATION. `TaskDone(id, context.Canceled, nil)` is not an error state (`Err() = nil`), but if it
is nevertheless handed to `Retry`, `Retry` calls `MarkAsDone(id, context.Canceled)`: the task that
`Step` deliberately left dispatched is recorded as failed with "context canceled". -/
theorem C06_retry_of_cancelled_marks_err :
    (init C06.t0).Script (C06.cancelled ++ [.sched .beginRetry, .sched (.markDone .none)]) ∧
    ((init C06.t0).run C06.cancelled).ret.err = none ∧
    (((init C06.t0).run (C06.cancelled ++ [.sched .beginRetry, .sched (.markDone .none)])).obs.repo.lookup
        "t").map (fun t => (t.state, t.err)) = some (.err, "context canceled") := by
  decide

end Gk
