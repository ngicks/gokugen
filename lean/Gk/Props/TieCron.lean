/-
Tie theorems, `cron/cron.go`: the timer functions `resetTimer`, `stopTimer`, `StartTimer`, `StopTimer`, `NextScheduled`,
`LastTimerUpdateError`, and `Peek` / `Pop`, as generated from the CURRENT Go source (Gk/Gen/Cron.lean) are the model's
`Cron.resetTimer` … (Gk/Cron.lean, `fixed = true`) that C17's theorems are about.
-/
import Gk.Gen.Cron
import Gk.Proofs.Cron
import Gk.Proofs.GoRt
namespace Gk.Tie
open Gk Gk.Gen Gk.Gen.Cron

theorem schedLen_pos (g : GoCron) : decide (GoCron.schedLen g > 0) = g.rest.head.isSome := by
  rw [Bool.eq_iff_iff, decide_eq_true_iff, Option.isSome_iff_ne_none, ne_eq, Gk.Cron.head_none_iff, GoCron.schedLen]
  cases g.rest.pending <;> simp <;> omega

@[simp] theorem toGenTask_ScheduledAt (t : Gk.Task) : (toGenTask t).ScheduledAt = t.scheduledAt := rfl

theorem head_toCron (g : GoCron) : g.toCron.head = g.rest.head := rfl

theorem stopDrainC (c : Clock) :
    (if (!(c.Stop).2) = true then Go.clockDrain (c.Stop).1 else (c.Stop).1) = c.stopAndDrain :=
  Go.stopDrain c

theorem tie_cron_stopTimer (g : GoCron) (hf : g.rest.fixed = true) :
    (CronStore.stopTimer g).toCron = g.toCron.stopTimerRaw := by
  rcases g with ⟨st, ⟨now, armed, pending⟩, rest⟩
  cases armed <;>
    simp [CronStore.stopTimer, GoCron.toCron, Gk.Cron.stopTimerRaw, Clock.stop, Clock.stopAndDrain, Clock.consume, go_rt]

theorem tie_cron_resetTimer (g : GoCron) (hf : g.rest.fixed = true) :
    (CronStore.resetTimer g).toCron = g.toCron.resetTimer := by
  rcases g with ⟨st, ⟨now, armed, pending⟩, rest⟩
  simp only at hf
  cases st
  · simp [CronStore.resetTimer, Gk.Cron.resetTimer, GoCron.toCron, hf]
  · have hhead : (GoCron.toCron ⟨true, ⟨now, armed, pending⟩, rest⟩).head = rest.head := rfl
    cases hh : rest.head <;> cases armed <;>
      simp [CronStore.resetTimer, Gk.Cron.resetTimer, hhead, hh, Clock.stop, Clock.stopAndDrain, Clock.consume,
        schedLen_pos, GoCron.schedPeek, go_rt] <;>
      simp [GoCron.toCron, hf]

theorem tie_cron_StartTimer (g : GoCron) (ctx : Ctx) (hf : g.rest.fixed = true) :
    (CronStore.StartTimer g ctx).toCron = g.toCron.startTimer := by
  simp only [CronStore.StartTimer, Gk.Cron.startTimer]
  rw [tie_cron_resetTimer { g with isTimerStarted := true } hf]
  rfl

theorem tie_cron_StopTimer (g : GoCron) (hf : g.rest.fixed = true) :
    (CronStore.StopTimer g).toCron = g.toCron.stopTimer := by
  simp only [CronStore.StopTimer, Gk.Cron.stopTimer]
  rw [tie_cron_stopTimer { g with isTimerStarted := false } hf]
  rfl

theorem tie_cron_NextScheduled (g : GoCron) : CronStore.NextScheduled g = g.toCron.nextScheduled := by
  cases hh : g.rest.head <;>
    simp [CronStore.NextScheduled, Gk.Cron.nextScheduled, head_toCron, hh, schedLen_pos, GoCron.schedPeek, Go.time_Zero]

theorem tie_cron_LastTimerUpdateError (g : GoCron) : CronStore.LastTimerUpdateError g = none := rfl

/-- the model's `pop` is: drop the head, `pushNext`, `resetTimer` — the three steps the glue names -/
theorem pop_eq (c : Gk.Cron) : c.pop = match c.head with
    | none => (c, none)
    | some t => (((c.dropHead t).pushNext t).resetTimer, some t.task) := by
  unfold Gk.Cron.pop
  cases c.head <;> rfl

theorem schedLen_zero (g : GoCron) : (GoCron.schedLen g == 0) = g.rest.head.isNone := by
  rw [Bool.eq_iff_iff, beq_iff_eq, Option.isNone_iff_eq_none, Gk.Cron.head_none_iff, GoCron.schedLen]
  cases g.rest.pending <;> simp <;> omega

/-- the glue's two steps between choosing the head and re-arming the timer are the model's `popNext` -/
theorem popNext_eq (c : Gk.Cron) (t : WTask) : c.popNext t = (c.dropHead t).pushNext t := rfl

/-- the answer of `Peek` / `Pop` for a model answer -/
def cronAns : Option Gk.Task → Gen.Def.Task × GoError
  | none => ((default : Gen.Def.Task), Go.repoErr (Kind := Gen.Def.Exhausted))
  | some t => (toGenTask t, none)

theorem tie_cron_Peek (g : GoCron) (ctx : Ctx) : CronStore.Peek g ctx = cronAns g.toCron.peek := by
  unfold CronStore.Peek Gk.Cron.peek
  rw [schedLen_zero, head_toCron]
  cases hh : g.rest.head with
  | none => rfl
  | some h => simp [GoCron.schedPeek, hh, cronAns, Def.Task.Clone_eq, go_rt]

theorem tie_cron_Pop (g : GoCron) (ctx : Ctx) (hf : g.rest.fixed = true) :
    (CronStore.Pop g ctx).1.toCron = (g.toCron.pop).1 ∧ (CronStore.Pop g ctx).2 = cronAns (g.toCron.pop).2 := by
  rw [pop_eq, head_toCron]
  unfold CronStore.Pop
  rw [schedLen_zero]
  cases hh : g.rest.head with
  | none => exact ⟨rfl, rfl⟩
  | some h =>
    have hpop : GoCron.schedPop g = ({ g with rest := g.rest.dropHead h }, { Task := toGenTask h.task, w := h }) := by
      simp [GoCron.schedPop, hh]
    simp only [Option.isNone_some, Bool.false_eq_true, if_false, hpop]
    -- `pushNext` leaves the fields `toCron` overlays (and `fixed`) alone
    obtain ⟨hfx, -, hck, hst, -⟩ := Gk.Cron.popNext_frame g.toCron h
    rw [popNext_eq] at hfx hck hst
    have hpn : (GoCron.pushNext { g with rest := g.rest.dropHead h } { Task := toGenTask h.task, w := h }).toCron =
        (g.toCron.dropHead h).pushNext h := by
      show ({ (g.toCron.dropHead h).pushNext h with started := g.toCron.started, clock := g.toCron.clock } : Gk.Cron) = _
      rw [← hck, ← hst]
    exact ⟨by rw [tie_cron_resetTimer _ (hfx.trans hf), hpn], rfl⟩

end Gk.Tie
