/-
Tie theorems, `repository/mution_hook_timer.go`: the methods of `MutationHookTimer` as generated from the
CURRENT Go source (Gk/Gen/Repository.lean) act on the generated state exactly as the hand-written model
`Gk.Obs` (Gk/Hook.lean, `fixed = true`) acts on its own — for every state, parameter and oracle answer of
the `GetNext` inside a re-arm. C07's and C05's theorems are about `Gk.Obs`.

`genOf o f` is the Go-shaped state that corresponds to the model state `o` when the next `GetNext` made by
a re-arm answers according to `f` (none: the core repository's real answer; some e: it fails with e).
-/
import Gk.Gen.Repository
import Gk.Props.TieDef
import Gk.Proofs.HookAct
namespace Gk.Tie
open Gk Gk.Gen Gk.Gen.Repository

/-- how a (non-exhausted) look-up failure shows up as a Go error -/
def goErrOf (e : Gk.Err) : GoErr := .other (reprStr e)

def oracle (o : Obs) (f : Option Gk.Err) : Gen.Def.Task × GoError :=
  match f with
  | some e => (default, some (goErrOf e))
  | none =>
    match o.repo.getNext with
    | some t => (toGen t, none)
    | none => (default, some (.repo "" "exhausted"))

def genOf (o : Obs) (f : Option Gk.Err) : MutationHookTimer :=
  { cachedMin := (o.hook.cached.map toGen).getD default
    cacheStale := o.hook.stale
    repo := { next := oracle o f }
    timerReset := o.hook.timerReset
    isTimerStarted := o.hook.started
    lastErr := o.hook.lastErr.map goErrOf
    clock := o.clock }

/-- what the tie needs of a model state: the repaired decision logic, and cached tasks have an id -/
structure Ok (o : Obs) : Prop where
  fixed : o.hook.fixed = true
  cachedId : ∀ c, o.hook.cached = some c → c.id ≠ ""

theorem stopDrain (c : Clock) :
    (if (!(c.Stop).2) = true then Go.clockDrain (c.Stop).1 else (c.Stop).1) = c.stopAndDrain :=
  Go.stopDrain c

theorem tie__update (o : Obs) (f : Option Gk.Err) (ctx : Ctx) (hf : f ≠ some .exhausted) :
    (genOf o f)._update ctx =
      (genOf { o.update f with hook := { (o.update f).hook with lastErr := o.hook.lastErr } } f,
       (o.update f).hook.lastErr.map goErrOf) := by
  rcases o with ⟨repo, ⟨fixed, cached, stale, timerReset, started, lastErr⟩, ⟨now, armed, pending⟩⟩
  cases started
  · simp [MutationHookTimer._update, genOf, Obs.update, oracle, go_rt]
  · rcases f with _ | e
    · cases hg : repo.getNext <;> cases armed <;>
        simp [MutationHookTimer._update, genOf, Obs.update, oracle, hg, Clock.stop, Clock.stopAndDrain, Clock.consume,
          GoRepo.GetNext, Go.def_IsExhausted, Go.def_IsRepositoryErr, Go.isRepositoryErr, toGen, go_rt]
    · have he : e ≠ .exhausted := fun h => hf (by rw [h])
      cases armed <;>
        simp [MutationHookTimer._update, genOf, Obs.update, oracle, Clock.stop, Clock.stopAndDrain, Clock.consume,
          GoRepo.GetNext, Go.def_IsExhausted, Go.def_IsRepositoryErr, Go.isRepositoryErr, goErrOf, go_rt]

theorem tie_update (o : Obs) (f : Option Gk.Err) (ctx : Ctx) (hf : f ≠ some .exhausted) :
    (genOf o f).update ctx = genOf (o.update f) f := by
  simp only [MutationHookTimer.update, tie__update o f ctx hf]
  simp [genOf, oracle, update_repo]

theorem stale_eq (o : Obs) (f : Option Gk.Err) : (genOf o f).cacheStale = o.hook.stale := rfl

/-! ### The four hooks

The model's hook is `Obs.act` of the decision `Hook.onX` (`hookX_eq`), and `genOf_act` says what each decision does
to the generated state. What is left of a tie is that the generated method takes the same decision. Each proof
first reads the atomic conditions the method can ask about off `genOf o f` (`Atoms`: the cached id, priority and
time, the comparison with the cached task; `stale_eq`), then decides every one of them — cache empty, cache stale,
the result of the comparison, the two ids equal, a field of the parameter present — and lets both sides compute
(`rfl`). So it does not depend on how the Go code combines the conditions. -/

def goAct (t : MutationHookTimer) (ctx : Ctx) : Hook.Act → MutationHookTimer
  | .rearm => t.update ctx
  | .keep => t
  | .markStale => { t with cacheStale := true }

theorem genOf_act (o : Obs) (f : Option Gk.Err) (ctx : Ctx) (hf : f ≠ some .exhausted) (a : Hook.Act) :
    goAct (genOf o f) ctx a = genOf (o.act a f) f := by
  cases a
  · exact tie_update o f ctx hf
  · rfl
  · rfl

theorem cached_none (o : Obs) (f : Option Gk.Err) (hc : o.hook.cached = none) : (genOf o f).cachedMin.Id = "" := by
  simp [genOf, hc]; rfl

/-- what the generated methods read of a cached task `c` -/
structure Atoms (t : MutationHookTimer) (c : Gk.Task) : Prop where
  id : t.cachedMin.Id = c.id
  priority : t.cachedMin.Priority = c.priority
  scheduledAt : t.cachedMin.ScheduledAt = c.scheduledAt
  less : ∀ x : Def.Task, x.Less t.cachedMin = x.Less (toGen c)
  /-- the cached id is not the empty one, whichever way round it is asked -/
  ne : (c.id == "") = false
  ne' : ("" == c.id) = false

theorem atoms (o : Obs) (f : Option Gk.Err) (h : Ok o) (c : Gk.Task) (hc : o.hook.cached = some c) :
    Atoms (genOf o f) c := by
  have e : (genOf o f).cachedMin = toGen c := by simp [genOf, hc]
  have hne := h.cachedId c hc
  exact ⟨by rw [e]; rfl, by rw [e]; rfl, by rw [e]; rfl, fun _ => by rw [e], beq_eq_false_iff_ne.2 hne,
    beq_eq_false_iff_ne.2 (Ne.symm hne)⟩

/-- the comparison, on a parameter that is written out field by field -/
theorem less_lit (wid : Option String) (pri : Option Int) (par met : Option SMap) (sch : Option Time)
    (dl : Option (Option Time)) (id : String) (cr : Time) (c : Gk.Task) :
    (({ WorkId := wid, Priority := pri, Param := par, Meta := met, ScheduledAt := sch, Deadline := dl } :
        Def.TaskUpdateParam).ToTask id cr).Less (toGen c) =
      (({ workId := wid, priority := pri, param := par, meta_ := met, scheduledAt := sch, deadline := dl } :
        Gk.Param).toTask id cr).lessHook c := by
  rw [← tie_Task_Less, ← tie_Param_ToTask]; rfl

section
-- The lists below name an equality test both ways round (`a.ne` / `a.ne'`, `BEq.comm`): whichever way the Go source
-- asks it, one of the two is used and the other is not.
set_option linter.unusedSimpArgs false

theorem tie_AddTask (o : Obs) (f : Option Gk.Err) (ctx : Ctx) (p : Gk.Param) (hf : f ≠ some .exhausted) (h : Ok o) :
    (genOf o f).AddTask ctx (toGenP p) = genOf (o.hookAdd p f) f := by
  rw [hookAdd_eq, ← genOf_act o f ctx hf]
  cases hc : o.hook.cached with
  | none => simp [MutationHookTimer.AddTask, Hook.onAdd, goAct, hc, cached_none o f hc]
  | some c =>
    have a := atoms o f h c hc
    obtain ⟨wid, pri, par, met, sch, dl⟩ := p
    generalize hl : (Hook.addProbe ⟨wid, pri, par, met, sch, dl⟩).lessHook c = b
    simp only [MutationHookTimer.AddTask, Hook.onAdd, Hook.addProbe, Obs.untrusted, hc, h.fixed, stale_eq, toGenP,
      a.id, a.less, a.ne, a.ne', less_lit, Def.NeverExistentId, Repository.farFuture] at hl ⊢
    simp only [hl]
    cases o.hook.stale <;> cases b <;> rfl

theorem tie_UpdateById (o : Obs) (f : Option Gk.Err) (ctx : Ctx) (id : String) (p : Gk.Param)
    (hf : f ≠ some .exhausted) (h : Ok o) :
    (genOf o f).UpdateById ctx id (toGenP p) = genOf (o.hookUpdate id p f) f := by
  rw [hookUpdate_eq, ← genOf_act o f ctx hf]
  cases hc : o.hook.cached with
  | none => simp [MutationHookTimer.UpdateById, Hook.onUpdate, goAct, hc, cached_none o f hc]
  | some c =>
    have a := atoms o f h c hc
    have hafter : ∀ s : Time, Int.After s c.scheduledAt = !decide (s ≤ c.scheduledAt) := fun s => by
      simp [Int.After, ← Int.not_le]
    simp only [MutationHookTimer.UpdateById, Hook.onUpdate, Hook.updateProbe, tie_Param_Normalize, Obs.untrusted, hc,
      h.fixed, if_true, stale_eq, a.id, a.priority, a.scheduledAt, a.less, a.ne, a.ne', @BEq.comm _ _ _ c.id id]
    generalize p.normalize = q
    obtain ⟨wid, pri, par, met, sch, dl⟩ := q
    generalize hl : (Hook.updateProbe ⟨wid, pri, par, met, sch, dl⟩ c).lessHook c = b
    simp only [Hook.updateProbe, toGenP, less_lit, Def.NeverExistentId, Go.time_Zero, Go.option_Some, Option.Or,
      Option.Value, hafter] at hl ⊢
    simp only [hl]
    cases o.hook.stale with
    | true => rfl
    | false =>
      cases (id == c.id) with
      | true =>
        -- the cached task itself: is anything that the order looks at given, and does it sort before the old place?
        cases pri <;> cases sch <;> cases b <;> rfl
      | false =>
        -- another task: a time not after the cached one, or no time and a priority not below the cached one?
        rcases pri with _ | pr <;> rcases sch with _ | sc
        · rfl
        · by_cases hle : sc ≤ c.scheduledAt <;> simp [goAct, hle, Option.IsSome, Option.IsNone]
        · by_cases hge : pr ≥ c.priority <;> simp [goAct, hge, Option.IsSome, Option.IsNone]
        · by_cases hle : sc ≤ c.scheduledAt <;> simp [goAct, hle, Option.IsSome, Option.IsNone]

theorem tie_Cancel (o : Obs) (f : Option Gk.Err) (ctx : Ctx) (id : String) (hf : f ≠ some .exhausted) (h : Ok o) :
    (genOf o f).Cancel ctx id = genOf (o.hookCancel id f) f := by
  rw [hookCancel_eq, ← genOf_act o f ctx hf]
  cases hc : o.hook.cached with
  | none => simp [MutationHookTimer.Cancel, Hook.onCancel, goAct, hc, cached_none o f hc]
  | some c =>
    have a := atoms o f h c hc
    simp only [MutationHookTimer.Cancel, Hook.onCancel, Obs.untrusted, hc, h.fixed, stale_eq, a.id, a.ne, a.ne',
      @BEq.comm _ _ _ id c.id]
    cases o.hook.stale <;> cases (c.id == id) <;> rfl

theorem tie_MarkAsDispatched (o : Obs) (f : Option Gk.Err) (ctx : Ctx) (id : String) (hf : f ≠ some .exhausted)
    (h : Ok o) (hid : id ≠ "") :
    (genOf o f).MarkAsDispatched ctx id = genOf (o.hookDispatch id f) f := by
  rw [hookDispatch_eq, ← genOf_act o f ctx hf]
  cases hc : o.hook.cached with
  | none =>
    -- Go compares `id` with the empty id of the zero task
    simp [MutationHookTimer.MarkAsDispatched, Hook.onDispatch, goAct, hc, cached_none o f hc, hid]
  | some c =>
    have a := atoms o f h c hc
    simp only [MutationHookTimer.MarkAsDispatched, Hook.onDispatch, hc, h.fixed, stale_eq, a.id, a.ne, a.ne', bne,
      @BEq.comm _ _ _ id c.id]
    cases o.hook.stale <;> cases (c.id == id) <;> rfl

end

theorem tie_StartTimer (o : Obs) (f : Option Gk.Err) (ctx : Ctx) (hf : f ≠ some .exhausted) :
    (genOf o f).StartTimer ctx = genOf (o.startTimer f) f := by
  simp only [MutationHookTimer.StartTimer, Obs.startTimer]
  rw [← tie_update _ f ctx hf]
  rfl

theorem tie_StopTimer (o : Obs) (f : Option Gk.Err) : (genOf o f).StopTimer = genOf o.stopTimer f := by
  rcases o with ⟨repo, ⟨fixed, cached, stale, timerReset, started, lastErr⟩, ⟨now, armed, pending⟩⟩
  cases armed <;>
    simp [MutationHookTimer.StopTimer, genOf, Obs.stopTimer, oracle, Clock.stop, Clock.stopAndDrain, Clock.consume,
      go_rt]

theorem tie_NextScheduled (o : Obs) (f : Option Gk.Err) : (genOf o f).NextScheduled = o.nextScheduled := by
  cases hc : o.hook.cached <;> simp [MutationHookTimer.NextScheduled, Obs.nextScheduled, genOf, hc, toGen] <;> rfl

theorem tie_LastTimerUpdateError (o : Obs) (f : Option Gk.Err) :
    (genOf o f).LastTimerUpdateError = o.hook.lastErr.map goErrOf := rfl

end Gk.Tie
