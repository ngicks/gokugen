/-
C16 — edits of the cron store are atomic and local (repaired code, `Cron.fixed = true`), and the
witnesses of D9 / D9b in the pinned code (`fixed = false`).
-/
import Gk.Cron
import Gk.Proofs.Cron
namespace Gk
open Cron

/-- A rejected `updateTask` returns the store it was given: no cursor moved, `entries`, `pending`,
the rank counter untouched — up to the model's harness-error flag `oracleExhausted`, which is set
when the rejection is due to the occurrence oracle having run dry. -/
theorem C16_rejected_noop_flag (c : Cron) (hf : c.fixed = true) (added removed : List String)
    (hrej : (c.updateTask added removed).2 = false) :
    (c.updateTask added removed).1 = c ∨
      (c.updateTask added removed).1 = { c with oracleExhausted := true } :=
  updateTask_reject hf hrej

/-- With an oracle that is long enough (flag still clear afterwards) the whole record is unchanged. -/
theorem C16_rejected_noop (c : Cron) (hf : c.fixed = true) (added removed : List String)
    (hrej : (c.updateTask added removed).2 = false)
    (ho : (c.updateTask added removed).1.oracleExhausted = false) :
    (c.updateTask added removed).1 = c := by
  rcases updateTask_reject hf hrej with e | e
  · exact e
  · rw [e] at ho; cases ho

/-- `EditTask`: a rejected edit leaves everything but the clock as it was, and the clock is what
`stopTimerRaw` followed by `resetTimer` produce. -/
theorem C16_rejected_noop_edit (c : Cron) (hf : c.fixed = true) (added removed : List String)
    (hrej : (c.editTask added removed).2 = false)
    (ho : (c.editTask added removed).1.oracleExhausted = false) :
    (c.editTask added removed).1 = c.stopTimerRaw.resetTimer ∧
    (c.editTask added removed).1 = { c with clock := c.stopTimerRaw.resetTimer.clock } := by
  rw [editTask_eq] at hrej ho ⊢
  simp only [resetTimer_oracle] at ho
  have := C16_rejected_noop c.stopTimerRaw hf added removed hrej ho
  dsimp only
  rw [this]
  exact ⟨rfl, by rw [resetTimer_eq]; rfl⟩

/-- Spelled out: no cursor moved, nothing stored or pending changed. -/
theorem C16_rejected_noop_fields (c : Cron) (hf : c.fixed = true) (added removed : List String)
    (hrej : (c.editTask added removed).2 = false)
    (ho : (c.editTask added removed).1.oracleExhausted = false) :
    let c' := (c.editTask added removed).1
    c'.ents = c.ents ∧ c'.entries = c.entries ∧ c'.pending = c.pending ∧ c'.counter = c.counter ∧
      c'.started = c.started ∧ c'.fixed = c.fixed := by
  have := (C16_rejected_noop_edit c hf added removed hrej ho).2
  rw [this]
  exact ⟨rfl, rfl, rfl, rfl, rfl, rfl⟩

/-- Non-vacuity: on `store1` (`a`, `b` stored), removing `b` and offering `a2` — which has the
identity of the stored `a` — is rejected, and no cursor moved. -/
example : ((CronEx.store1).editTask ["a2"] ["b"]).2 = false ∧
    ((CronEx.store1).editTask ["a2"] ["b"]).1.oracleExhausted = false ∧
    ((CronEx.store1).editTask ["a2"] ["b"]).1.ents.map (·.prev) = (CronEx.store1).ents.map (·.prev) := by
  decide

/-- (a) an added entry whose identity is stored and is not being removed -/
theorem C16_dup_rejected_stored (c : Cron) (hf : c.fixed = true) (added removed : List String)
    (n : String) (e : CEntry) (hn : n ∈ added) (he : c.ent n = some e)
    (hstored : e.ident ∈ c.entries.map (·.1)) (hkeep : e.ident ∉ c.removedKeys removed) :
    (c.updateTask added removed).2 = false := by
  rcases updateTask_spec hf added removed with ⟨h, _⟩ | ⟨_, staged, hA⟩
  · exact h
  · obtain ⟨s, _, rfl, hok⟩ := hA.staged_of_mem hn he
    obtain ⟨hk, _, hdup⟩ := hok.key
    rw [hk] at hdup
    exact absurd (hdup hstored) hkeep

/-- (b) an accepted edit has pairwise distinct identities among the added entries (in particular
no name is offered twice) -/
theorem C16_accepted_distinct (c : Cron) (hf : c.fixed = true) (added removed : List String)
    (hacc : (c.updateTask added removed).2 = true) :
    (added.map (fun n => (c.ent n).map CEntry.ident)).Nodup :=
  (updateTask_accept hf hacc).elim fun _ hA => hA.idents_nodup

/-- (b) two added entries with equal identities -/
theorem C16_dup_rejected_added (c : Cron) (hf : c.fixed = true) (removed : List String)
    (l1 l2 l3 : List String) (n1 n2 : String) (e1 e2 : CEntry)
    (h1 : c.ent n1 = some e1) (h2 : c.ent n2 = some e2) (hid : e1.ident = e2.ident) :
    (c.updateTask (l1 ++ n1 :: l2 ++ n2 :: l3) removed).2 = false := by
  cases hacc : (c.updateTask (l1 ++ n1 :: l2 ++ n2 :: l3) removed).2 with
  | false => rfl
  | true =>
    have := C16_accepted_distinct c hf _ removed hacc
    simp only [List.map_append, List.map_cons, h1, h2, Option.map_some, hid, List.append_assoc] at this
    have h3 := (List.nodup_append.mp this).2.1
    rw [List.cons_append] at h3
    exact absurd (by simp) (List.nodup_cons.mp h3).1

/-- (c) an added entry whose metadata the mutator store cannot load -/
theorem C16_dup_rejected_load (c : Cron) (hf : c.fixed = true) (added removed : List String)
    (n : String) (e : CEntry) (p : Param) (hn : n ∈ added) (he : c.ent n = some e)
    (hp : e.param = some p) (hload : Mut.load (p.meta_.getD []) e.oMin e.oMax = .error ()) :
    (c.updateTask added removed).2 = false := by
  rcases updateTask_spec hf added removed with ⟨h, _⟩ | ⟨_, staged, hA⟩
  · exact h
  · obtain ⟨s, _, rfl, hok⟩ := hA.staged_of_mem hn he
    obtain ⟨_, p', muts, hp', _, hl, _⟩ := hok
    cases hp.symm.trans hp'
    rw [hload] at hl
    cases hl

/-- the three clauses together, for `EditTask` -/
theorem C16_dup_rejected (c : Cron) (hf : c.fixed = true) (added removed : List String)
    (h : (∃ n e, n ∈ added ∧ c.ent n = some e ∧ e.ident ∈ c.entries.map (·.1) ∧
            e.ident ∉ c.removedKeys removed) ∨
         ¬ (added.map (fun n => (c.ent n).map CEntry.ident)).Nodup ∨
         (∃ n e p, n ∈ added ∧ c.ent n = some e ∧ e.param = some p ∧
            Mut.load (p.meta_.getD []) e.oMin e.oMax = .error ())) :
    (c.editTask added removed).2 = false ∧ (c.updateTask added removed).2 = false := by
  -- the hypothesis does not look at the clock, so it holds of `c.stopTimerRaw` as well
  have key : ∀ c' : Cron, c'.fixed = true → c'.ents = c.ents → c'.entries = c.entries →
      (c'.updateTask added removed).2 = false := by
    intro c' hf' he hen
    have hent : ∀ n, c'.ent n = c.ent n := ent_congr he
    have hrk : c'.removedKeys removed = c.removedKeys removed := by simp only [removedKeys, hent]
    rcases h with ⟨n, e, hn, he, h1, h2⟩ | h | ⟨n, e, p, hn, he, hp, hl⟩
    · exact C16_dup_rejected_stored c' hf' added removed n e hn (by rw [hent]; exact he) (by rw [hen]; exact h1)
        (by rw [hrk]; exact h2)
    · cases hacc : (c'.updateTask added removed).2 with
      | false => rfl
      | true => exact absurd (by simpa only [hent] using C16_accepted_distinct c' hf' added removed hacc) h
    · exact C16_dup_rejected_load c' hf' added removed n e p hn (by rw [hent]; exact he) hp hl
  exact ⟨key c.stopTimerRaw hf rfl rfl, key c hf rfl rfl⟩

/-- Non-vacuity of the three clauses on `store1` (`a`, `b` stored): `a2` has the identity of the
stored `a`; `a` and `a2` offered together (while `a` is removed) have equal identities; `bad` has
an unparsable RandomizeScheduledAt label. All three edits are rejected. -/
example :
    ((CronEx.store1).editTask ["a2"] []).2 = false ∧
    ((CronEx.store1).editTask ["a", "a2"] ["a"]).2 = false ∧
    ((CronEx.store1).editTask ["bad"] []).2 = false := by decide

example : ∃ n e, n ∈ ["a2"] ∧ (CronEx.store1).ent n = some e ∧
    e.ident ∈ (CronEx.store1).entries.map (·.1) ∧ e.ident ∉ (CronEx.store1).removedKeys [] :=
  ⟨"a2", CronEx.entA', by decide, by rfl, by decide, by decide⟩

/-- D9: on the pinned code a *rejected* edit has already advanced cursors: `b` (re-offered while
being removed) moves 2 ms → 4 ms and `a2` (the duplicate that causes the rejection) 3 ms → 6 ms,
so the occurrences `b@4ms` and `a2@6ms` are lost. -/
theorem C16_D9_witness :
    ((CronEx.store1 false).editTask ["b", "a2"] ["b"]).2 = false ∧
    (CronEx.store1 false).ents.map (·.prev) = [3000000, 2000000, 3000000, 0] ∧
    ((CronEx.store1 false).editTask ["b", "a2"] ["b"]).1.ents.map (·.prev) =
      [3000000, 4000000, 6000000, 0] := by decide

/-- The repaired code rejects the same edit and moves nothing. -/
theorem C16_D9_fixed :
    ((CronEx.store1 true).editTask ["b", "a2"] ["b"]).2 = false ∧
    ((CronEx.store1 true).editTask ["b", "a2"] ["b"]).1.ents.map (·.prev) =
      (CronEx.store1 true).ents.map (·.prev) := by decide

/-- D9b: on the pinned code two added entries with the identity of an entry that is being removed
are *both* accepted; both cursors advance (`a`: 3 → 6 ms, `a2`: 3 → 6 ms) but only the later one is
stored — two entries were accepted, one pending task was created, `a` is silently dropped. -/
theorem C16_D9b_witness :
    ((CronEx.store1 false).editTask ["a", "a2"] ["a"]).2 = true ∧
    ((CronEx.store1 false).editTask ["a", "a2"] ["a"]).1.ents.map (·.prev) =
      [6000000, 2000000, 6000000, 0] ∧
    ((CronEx.store1 false).editTask ["a", "a2"] ["a"]).1.entries.map (·.2) = ["b", "a2"] ∧
    ((CronEx.store1 false).editTask ["a", "a2"] ["a"]).1.pending.map (·.task.scheduledAt) =
      [2000000, 6000000] := by decide

/-- The repaired code rejects it. -/
theorem C16_D9b_fixed :
    ((CronEx.store1 true).editTask ["a", "a2"] ["a"]).2 = false := by decide

/-- What an accepted edit `c ↦ c'` did, `staged` being the wrapped first occurrences of the added
entries (in the order offered). -/
structure EditOK (c : Cron) (added removed : List String) (c' : Cron) (staged : List Staged) : Prop where
  names : staged.map (·.ent.name) = added
  entries : c'.entries = c.entries.filter (fun kv => !(c.removedKeys removed).contains kv.1) ++
    staged.map (fun s => (s.w.key, s.ent.name))
  pending : c'.pending = c.pending.filter (fun w => !(c.removedKeys removed).contains w.key) ++
    staged.map (·.w)
  /-- a removed identity is stored / pending afterwards only if it was added again -/
  removedGone : ∀ k ∈ c.removedKeys removed,
    (k ∈ c'.entries.map (·.1) ∨ k ∈ c'.pending.map (·.key)) → k ∈ staged.map (·.w.key)
  keptEntries : ∀ kv ∈ c.entries, kv.1 ∉ c.removedKeys removed → kv ∈ c'.entries
  keptPending : ∀ w ∈ c.pending, w.key ∉ c.removedKeys removed → w ∈ c'.pending
  /-- entries that were not offered keep their cursor -/
  others : ∀ n, n ∉ added → c'.ent n = c.ent n
  /-- each added entry: its cursor advanced by exactly one occurrence `o`, and its pending task is
  `wrap` of `Param()` before the advance, whose un-mutated time is `o` -/
  addedOK : ∀ s ∈ staged, c.ent s.ent.name = some s.ent ∧
    ∃ o p muts, s.ent.nextOcc = some o ∧ s.ent.param = some p ∧ p.scheduledAt = some o ∧
      Mut.load (p.meta_.getD []) s.ent.oMin s.ent.oMax = .ok muts ∧
      wrap c s.ent p muts s.w.rank = some s.w ∧ s.w.key = s.ent.ident ∧
      c'.ent s.ent.name = some { s.ent with prev := o } ∧
      s.w ∈ c'.pending ∧ (s.w.key, s.ent.name) ∈ c'.entries

theorem C16_success (c : Cron) (hf : c.fixed = true) (added removed : List String)
    (hacc : (c.updateTask added removed).2 = true) :
    ∃ staged, EditOK c added removed (c.updateTask added removed).1 staged := by
  obtain ⟨staged, hA⟩ := updateTask_accept hf hacc
  refine ⟨staged, hA.names, hA.entries, hA.pending, ?_, ?_, ?_, ?_, ?_⟩
  · intro k hk hin
    rw [hA.entries, hA.pending] at hin
    simp only [List.map_append, List.mem_append, List.map_map] at hin
    have hk' : (c.removedKeys removed).contains k = true := by simpa using hk
    rcases hin with (h | h) | (h | h)
    · obtain ⟨kv, hkv, rfl⟩ := List.mem_map.mp h
      have := (List.mem_filter.mp hkv).2
      rw [hk'] at this; cases this
    · exact h
    · obtain ⟨w, hw, rfl⟩ := List.mem_map.mp h
      have := (List.mem_filter.mp hw).2
      rw [hk'] at this; cases this
    · exact h
  · intro kv hkv hk
    rw [hA.entries]
    exact List.mem_append_left _ (List.mem_filter.mpr ⟨hkv, by simpa using hk⟩)
  · intro w hw hk
    rw [hA.pending]
    exact List.mem_append_left _ (List.mem_filter.mpr ⟨hw, by simpa using hk⟩)
  · intro n hn
    rw [hA.ent n]
    exact ent_map_skip c (P := added.contains) _ (by simpa using hn)
  · intro s hs
    have hok := hA.ok s hs
    have hkey := hok.key.1
    obtain ⟨h1, p, muts, hp, _, hl, hw⟩ := hok
    obtain ⟨o, hno, _⟩ := CEntry.param_eq hp
    have hin : added.contains s.ent.name = true := by
      rw [← hA.names]; simp only [List.contains_eq_mem, List.mem_map, decide_eq_true_eq]
      exact ⟨s, hs, rfl⟩
    refine ⟨h1, o, p, muts, hno, hp, by rw [CEntry.param_sched hp, hno], hl, hw, hkey, ?_, ?_, ?_⟩
    · rw [hA.ent, h1, Option.map_some, if_pos hin, CEntry.advance_prev hno]
    · rw [hA.pending]; exact List.mem_append_right _ (List.mem_map.mpr ⟨s, hs, rfl⟩)
    · rw [hA.entries]; exact List.mem_append_right _ (List.mem_map.mpr ⟨s, hs, rfl⟩)

/-- `EditTask` = `updateTask` between stopping and re-arming the timer: same statement. -/
theorem C16_success_edit (c : Cron) (hf : c.fixed = true) (added removed : List String)
    (hacc : (c.editTask added removed).2 = true) :
    ∃ staged, EditOK c added removed (c.editTask added removed).1 staged := by
  rw [editTask_eq] at hacc ⊢
  obtain ⟨staged, h⟩ := C16_success c.stopTimerRaw hf added removed hacc
  -- `resetTimer` touches the clock only, and of the clock `wrap` reads only `now`, which `stopTimerRaw` keeps
  rw [resetTimer_eq]
  refine ⟨staged, h.names, h.entries, h.pending, h.removedGone, h.keptEntries, h.keptPending, h.others, fun s hs => ?_⟩
  have := h.addedOK s hs
  simp only [wrap_stopTimerRaw] at this
  exact this

/-- On a store satisfying the C15 invariant a kept identity's entry was not offered (that would have
been a rejected duplicate), so kept identities keep their entry's cursor as well as their pending
task. -/
theorem C16_success_kept_cursor (c : Cron) (hI : Core c) (added removed : List String)
    (hacc : (c.updateTask added removed).2 = true) (kv : SerKey × String) (hkv : kv ∈ c.entries)
    (hk : kv.1 ∉ c.removedKeys removed) :
    kv.2 ∉ added ∧ (c.updateTask added removed).1.ent kv.2 = c.ent kv.2 ∧
      kv ∈ (c.updateTask added removed).1.entries := by
  obtain ⟨staged, h⟩ := C16_success c hI.fixed added removed hacc
  obtain ⟨e, he, hi⟩ := hI.ents kv hkv
  have hn : kv.2 ∉ added := by
    intro hin
    have := C16_dup_rejected_stored c hI.fixed added removed kv.2 e hin he
      (by rw [hi]; exact List.mem_map.mpr ⟨kv, hkv, rfl⟩) (by rw [hi]; exact hk)
    rw [this] at hacc; cases hacc
  exact ⟨hn, h.others kv.2 hn, h.keptEntries kv hkv hk⟩

/-- Non-vacuity: on `store1` remove `a` and add `a2` (same identity): accepted; `b` keeps its
pending task and cursor, `a2`'s cursor moves 3 → 6 ms and its task is at 6 ms. -/
example :
    (CronEx.store1.editTask ["a2"] ["a"]).2 = true ∧
    (CronEx.store1.editTask ["a2"] ["a"]).1.entries.map (·.2) = ["b", "a2"] ∧
    (CronEx.store1.editTask ["a2"] ["a"]).1.pending.map (·.task.scheduledAt) = [2000000, 6000000] ∧
    (CronEx.store1.editTask ["a2"] ["a"]).1.ents.map (·.prev) = [3000000, 2000000, 6000000, 0] := by
  decide

end Gk
