/-
Tie theorems, `scheduler/repository.go` (`volatileTaskRepo`): `GetById`, `GetNext`, `MarkAsDispatched`, `MarkAsDone` as
generated from the CURRENT Go source (Gk/Gen/Volatile.lean) do to the `record` map exactly what the cron configuration of
the scheduler model (`Gk.CWorld.sched`, Gk/WorldCron.lean) does to `VRepo.record` in its `peek` / `pop` /
`markDispatched` / `markDone` / `getById` transitions, for every pair of answers of the cron store's `Peek` and `Pop`
(independent: an edit can land between the two calls — finding D18 lives exactly there).

`volSpec*` are those transitions' effect on the record, written as functions; `cworld_*` link them to `CWorld.sched`.
-/
import Gk.Gen.Volatile
import Gk.WorldCron
import Gk.GenGlueSched
import Gk.Proofs.GoRt
namespace Gk.Tie
open Gk Gk.Gen Gk.Gen.Volatile

/-- the Go map that stands for the model's record list -/
def recGo (rec : List (String × Gk.Task)) : List (String × Def.Task) := rec.map fun kt => (kt.1, toGenT kt.2)

/-- what the cron store's `Peek` / `Pop` answer, in Go's shape -/
def ansGo : Option Gk.Task → Def.Task × GoError
  | some t => (toGenT t, none)
  | none => (default, some (.repo "" "exhausted"))

def mkVol (v : VRepo) (pk pp : Option Gk.Task) : GoVol := { record := recGo v.record, peekAns := ansGo pk, popAns := ansGo pp }

theorem lookupT_recGo (rec : List (String × Gk.Task)) (id : String) :
    Go.mapLookupT (recGo rec) id =
      match (rec.find? (·.1 == id)) with
      | some kt => (toGenT kt.2, true)
      | none => (default, false) := by
  unfold Go.mapLookupT recGo
  have hc : ((fun x : String × Def.Task => x.1 == id) ∘ fun kt : String × Gk.Task => (kt.1, toGenT kt.2)) =
      fun x => x.1 == id := rfl
  rw [List.find?_map, hc]
  cases List.find? (fun x => x.1 == id) rec <;> rfl

theorem setT_recGo (rec : List (String × Gk.Task)) (id : String) (t : Gk.Task) :
    Go.mapSetT (recGo rec) id (toGenT t) = recGo (rec.filter (·.1 != id) ++ [(id, t)]) := by
  simp [Go.mapSetT, recGo, List.filter_map, Function.comp_def]

theorem deleteT_recGo (rec : List (String × Gk.Task)) (id : String) :
    Go.mapDeleteT (recGo rec) id = recGo (rec.filter (·.1 != id)) := by
  simp [Go.mapDeleteT, recGo, List.filter_map, Function.comp_def]

theorem toGenT_id (t : Gk.Task) : (toGenT t).Id = t.id := rfl

theorem tie_vol_GetById (v : VRepo) (pk pp : Option Gk.Task) (ctx : Ctx) (id : String) :
    volatileTaskRepo.GetById (mkVol v pk pp) ctx id =
      match v.lookup id with
      | some t => (toGenT t, none)
      | none => (default, some (.repo id "id_not_found")) := by
  simp only [volatileTaskRepo.GetById, mkVol, lookupT_recGo, VRepo.lookup]
  cases List.find? (fun x => x.1 == id) v.record <;> simp [go_rt, Def.IdNotFound, Def.Task.Clone_eq]

theorem tie_vol_MarkAsDone (v : VRepo) (pk pp : Option Gk.Task) (ctx : Ctx) (id : String) (e : GoError) :
    volatileTaskRepo.MarkAsDone (mkVol v pk pp) ctx id e = (mkVol (v.del id) pk pp, none) := by
  simp [volatileTaskRepo.MarkAsDone, mkVol, deleteT_recGo, VRepo.del, go_rt]

/-! ### GetNext = Peek + remember -/

/-- the record after the `peek` transition at `s_getNext` -/
def volSpecGetNext (v : VRepo) (pk : Option Gk.Task) : VRepo :=
  match pk with
  | some t => v.put t.id t
  | none => v

theorem tie_vol_GetNext (v : VRepo) (pk pp : Option Gk.Task) (ctx : Ctx) :
    volatileTaskRepo.GetNext (mkVol v pk pp) ctx =
      (mkVol (volSpecGetNext v pk) pk pp, (ansGo pk).1, (ansGo pk).2) := by
  cases pk with
  | none => simp [volatileTaskRepo.GetNext, GoVol.peek, mkVol, ansGo, go_rt, volSpecGetNext]
  | some t =>
    simp only [volatileTaskRepo.GetNext, GoVol.peek, mkVol, ansGo, go_rt, toGenT_id, setT_recGo, volSpecGetNext,
      VRepo.put]
    rfl

/-! ### MarkAsDispatched = Peek; [Pop]; bookkeeping -/

/-- record and answer after the `peek` (and, when the head is the announced task, the `pop`) transitions at `d_mark` -/
def volSpecMark (v : VRepo) (id : String) (pk pp : Option Gk.Task) : VRepo × Option Gk.Err :=
  match pk with
  | none => (v, some .exhausted)
  | some p =>
    if p.id == id then
      match pp with
      | none => (v, some .exhausted)
      | some _ =>
        (match v.lookup id with
         | some r => v.put id { r with state := .dispatched }
         | none => v, none)
    else if (v.lookup id).isSome then (v.del id, some .alreadyCancelled)
    else (v, none)

def errGoVol (id : String) : Option Gk.Err → GoError
  | none => none
  | some .alreadyCancelled => some (.repo id "already_cancelled")
  | some _ => some (.repo "" "exhausted")

theorem tie_vol_MarkAsDispatched (v : VRepo) (pk pp : Option Gk.Task) (ctx : Ctx) (id : String) :
    volatileTaskRepo.MarkAsDispatched (mkVol v pk pp) ctx id =
      (mkVol (volSpecMark v id pk pp).1 pk pp, errGoVol id (volSpecMark v id pk pp).2) := by
  cases pk with
  | none => simp [volatileTaskRepo.MarkAsDispatched, GoVol.peek, mkVol, ansGo, go_rt, volSpecMark, errGoVol]
  | some p =>
    cases hid : p.id == id <;> cases pp <;> cases hk : List.find? (fun x => x.1 == id) v.record <;>
      simp [volatileTaskRepo.MarkAsDispatched, GoVol.peek, GoVol.pop, mkVol, ansGo, go_rt, toGenT_id, lookupT_recGo,
        volSpecMark, VRepo.lookup, hid, hk, errGoVol, deleteT_recGo, VRepo.put, VRepo.del,
        Def.AlreadyCancelled]
    -- left: the stored task with its state overwritten, which is `toGenT` of the model's
    rename_i kt
    exact setT_recGo v.record id { kt.2 with state := .dispatched }

theorem _root_.Gk.CWorld.sched_mark_peek {w : CWorld} {t : Gk.Task} (h : w.pc = .d_mark t) : w.sched .peek =
    match w.v.peek with
    | none => ({ w with pc := .d_markRet t (some .exhausted) }, .otask none)
    | some p =>
      if p.id == t.id then ({ w with pc := .d_markPop t }, .otask (some p))
      else if (w.v.lookup t.id).isSome then
        ({ w with v := w.v.del t.id, pc := .d_markRet t (some .alreadyCancelled) }, .otask (some p))
      else ({ w with pc := .d_markRet t none }, .otask (some p)) := by
  cases w; cases h; rfl

theorem _root_.Gk.CWorld.sched_markPop {w : CWorld} {t : Gk.Task} (h : w.pc = .d_markPop t) : w.sched .pop =
    match w.v.cron.head with
    | none => ({ w with pc := .d_markRet t (some .exhausted) }, .otask none)
    | some hd =>
      let v : VRepo := { w.v with cron := (w.v.cron.pop).1 }
      let v := match v.lookup t.id with
        | some r => v.put t.id { r with state := .dispatched }
        | none => v
      ({ w with v := v, popped := w.popped ++ [hd.tid], pc := .d_markRet t none }, .otask (some hd.out)) := by
  cases w; cases h; rfl

/-- `GetNext`: the `peek` transition at `s_getNext` -/
theorem cworld_getNext_peek (w : CWorld) (h : w.pc = .s_getNext) :
    (w.sched .peek).1.v = volSpecGetNext w.v w.v.peek ∧ (w.sched .peek).1.pc = .s_getNextRet w.v.peek ∧
      (w.sched .peek).2 = .otask w.v.peek := by
  cases w; cases h
  exact ⟨rfl, rfl, rfl⟩

/-- `MarkAsDispatched`, first half: the `peek` transition at `d_mark t`. Either the head is the announced task and the
automaton goes on to `pop` with the record untouched, or the call is decided and record / answer are `volSpecMark`'s
(whatever `Pop` would have answered). -/
theorem cworld_mark_peek (w : CWorld) (t : Gk.Task) (h : w.pc = .d_mark t) (pp : Option Gk.Task) :
    ((∃ p, w.v.peek = some p ∧ (p.id == t.id) = true) ∧ (w.sched .peek).1.pc = .d_markPop t ∧ (w.sched .peek).1.v = w.v) ∨
    ((¬ ∃ p, w.v.peek = some p ∧ (p.id == t.id) = true) ∧
      (w.sched .peek).1.pc = .d_markRet t (volSpecMark w.v t.id w.v.peek pp).2 ∧
      (w.sched .peek).1.v = (volSpecMark w.v t.id w.v.peek pp).1) := by
  rw [CWorld.sched_mark_peek h]
  unfold volSpecMark
  cases w.v.peek with
  | none => exact .inr ⟨(by rintro ⟨_, hp, _⟩; cases hp), rfl, rfl⟩
  | some p =>
    dsimp only
    by_cases hid : (p.id == t.id) = true
    · rw [if_pos hid]
      exact .inl ⟨⟨p, rfl, hid⟩, rfl, rfl⟩
    · rw [if_neg hid, if_neg hid]
      refine .inr ⟨?_, ?_⟩
      · rintro ⟨_, hp, hq⟩; cases hp; exact hid hq
      · cases (w.v.lookup t.id).isSome <;> exact ⟨rfl, rfl⟩

/-- `MarkAsDispatched`, second half: the `pop` transition at `d_markPop t` (the cron store may have been edited since the
`peek`: `w` is ANY world at that program counter). The record is `volSpecMark`'s for a head that WAS the announced task
and whatever `Pop` hands out now. -/
theorem cworld_mark_pop (w : CWorld) (t : Gk.Task) (h : w.pc = .d_markPop t) :
    (w.sched .pop).1.v.record = (volSpecMark w.v t.id (some t) (w.v.cron.head.map WTask.out)).1.record ∧
    (w.sched .pop).1.pc = .d_markRet t (volSpecMark w.v t.id (some t) (w.v.cron.head.map WTask.out)).2 := by
  rw [CWorld.sched_markPop h]
  simp only [volSpecMark, beq_self_eq_true, if_true]
  cases w.v.cron.head with
  | none => exact ⟨rfl, rfl⟩
  | some hd =>
    have hl : ({ w.v with cron := (w.v.cron.pop).1 } : VRepo).lookup t.id = w.v.lookup t.id := rfl
    simp only [Option.map_some, hl]
    cases w.v.lookup t.id <;> trivial

end Gk.Tie
