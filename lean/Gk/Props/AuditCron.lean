/- Axiom audit of the C15 / C16 / C17 property theorems (and the cron clause of C18): only
`propext`, `Classical.choice`, `Quot.sound` may appear. -/
import Gk.Props.C15
import Gk.Props.C16
import Gk.Props.C17
open Gk
#print axioms C15_one_pending
#print axioms C15_inv_step
#print axioms C15_core_run
#print axioms C15_pop_is_min
#print axioms C15_schedule_head
#print axioms C15_schedule_head_run
#print axioms C15_stream_step_ent
#print axioms C15_stream_step
#print axioms C15_stream_pop
#print axioms C15_stream_pop_others
#print axioms C15_stream
#print axioms C15_stream_consecutive
#print axioms C18_cron_cursor_pop
#print axioms C18_cron_cursor_pop_indep
#print axioms C18_cron_cursor_edit
#print axioms C18_cron_cursor_edit_indep
#print axioms C16_rejected_noop_flag
#print axioms C16_rejected_noop
#print axioms C16_rejected_noop_edit
#print axioms C16_rejected_noop_fields
#print axioms Cron.Accepted.staged_of_mem
#print axioms C16_dup_rejected_stored
#print axioms C16_accepted_distinct
#print axioms C16_dup_rejected_added
#print axioms C16_dup_rejected_load
#print axioms C16_dup_rejected
#print axioms C16_D9_witness
#print axioms C16_D9_fixed
#print axioms C16_D9b_witness
#print axioms C16_D9b_fixed
#print axioms Cron.wrap_stopTimerRaw
#print axioms C16_success
#print axioms C16_success_edit
#print axioms C16_success_kept_cursor
#print axioms C17_inv_init
#print axioms C17_inv_step
#print axioms C17_inv_run
#print axioms C17_armed_exact_step
#print axioms C17_armed_exact
#print axioms C17_silent_when_stopped
#print axioms C17_stopped_no_fire
#print axioms C17_clock_sane
#print axioms C17_next_scheduled
#print axioms C17_D10_witness
#print axioms C17_D10_fires
#print axioms C17_D10_fixed
-- the supporting invariants and characterisations
#print axioms Cron.stage_spec
#print axioms Cron.updateTask_accept
#print axioms Cron.updateTask_reject
#print axioms Cron.Inv.run
#print axioms Cron.ClockInv.run
#print axioms Cron.run_stream
