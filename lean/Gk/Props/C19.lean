/-
C19 — no mutable state is shared across the API boundary.
If every crossing clones, the cells reachable from the store are disjoint from every cell the client
ever held (`C19_separation`); hence whatever the client scribbles, the store's contents by value are
those of the value-semantic run (`C19_value_semantics`). A crossing that does not clone breaks it
(`C19_D13_witness`). Which crossings of gokugen clone is hand-transcribed (see Gk/Alias.lean) and
validated by the scribbling correspondence only.
-/
import Gk.Alias
namespace Gk
open Alias

/-- Store cells against CLIENT cells only. Two stored tasks may share a cell (an `update` of a repeated id points every
task of that id at the one new cell); that is harmless, since the store never writes a cell in place. -/
structure Alias.Sep (s : Sys) : Prop where
  store_lt : ∀ t ∈ s.store, t.pc < s.next ∧ t.mc < s.next
  client_lt : ∀ c ∈ s.client, c < s.next
  disjoint : ∀ t ∈ s.store, t.pc ∉ s.client ∧ t.mc ∉ s.client

theorem Alias.sep_init : Sep {} := ⟨by simp, by simp, by simp⟩

theorem Alias.deref_congr {s s' : Sys} (hs : s'.store = s.store)
    (hc : ∀ t ∈ s.store, s'.cells t.pc = s.cells t.pc ∧ s'.cells t.mc = s.cells t.mc) : deref s' = deref s := by
  simp only [deref, hs]
  exact List.map_congr_left fun t ht => by rw [(hc t ht).1, (hc t ht).2]

theorem Alias.deref_alloc (s : Sys) (h : ∀ t ∈ s.store, t.pc < s.next ∧ t.mc < s.next) (v : SMap) :
    deref (alloc s v).1 = deref s :=
  deref_congr rfl fun t ht => ⟨if_neg (Nat.ne_of_lt (h t ht).1), if_neg (Nat.ne_of_lt (h t ht).2)⟩

namespace Alias

/-! The operations of `step` are made of four moves: allocate two cells, hand cells to the client,
append a task to the store, point a stored task at another cell. Each keeps `Sep` under a side condition
that says the cells involved are new, and has a known effect on `deref`. -/

def alloc2 (s : Sys) (v w : SMap) : Sys := (alloc (alloc s v).1 w).1
/-- clones of the cells `a`, `b`, as two `cross`ings make them -/
def clone2 (s : Sys) (a b : Cell) : Sys := alloc2 s (s.cells a) ((alloc s (s.cells a)).1.cells b)
def give (s : Sys) (cs : List Cell) : Sys := { s with client := cs ++ s.client }
def push (s : Sys) (t : RTask) : Sys := { s with store := s.store ++ [t] }
def setPc (s : Sys) (id : String) (c : Cell) : Sys :=
  { s with store := s.store.map fun t => if t.id == id then { t with pc := c } else t }

theorem step_add (s : Sys) (id : String) (p m : SMap) :
    step {} s (.add id p m) =
      let s1 := give (alloc2 s p m) [s.next, s.next + 1]
      let s2 := push (clone2 s1 s.next (s.next + 1)) ⟨id, s1.next, s1.next + 1⟩
      give (clone2 s2 s1.next (s1.next + 1)) [s2.next, s2.next + 1] := rfl

theorem step_get (s : Sys) (id : String) :
    step {} s (.get id) =
      match s.store.find? (·.id == id) with
      | none => s
      | some t => give (clone2 s t.pc t.mc) [s.next, s.next + 1] := rfl

theorem step_update (s : Sys) (id : String) (p : SMap) :
    step {} s (.update id p) =
      let s1 := give (alloc s p).1 [s.next]
      setPc (alloc s1 (s1.cells s.next)).1 id s1.next := rfl


namespace Sep
variable {s : Sys}

theorem fresh (h : Sep s) {c : Cell} (hc : s.next ≤ c) :
    c ∉ s.client ∧ ∀ t ∈ s.store, t.pc ≠ c ∧ t.mc ≠ c :=
  ⟨fun hm => Nat.lt_irrefl _ (Nat.lt_of_lt_of_le (h.client_lt c hm) hc),
   fun t ht => ⟨Nat.ne_of_lt (Nat.lt_of_lt_of_le (h.store_lt t ht).1 hc),
                Nat.ne_of_lt (Nat.lt_of_lt_of_le (h.store_lt t ht).2 hc)⟩⟩

theorem alloc (h : Sep s) (v : SMap) : Sep (Alias.alloc s v).1 :=
  ⟨fun t ht => ⟨Nat.lt_succ_of_lt (h.store_lt t ht).1, Nat.lt_succ_of_lt (h.store_lt t ht).2⟩,
   fun c hc => Nat.lt_succ_of_lt (h.client_lt c hc), h.disjoint⟩

theorem alloc2 (h : Sep s) (v w : SMap) : Sep (Alias.alloc2 s v w) ∧ deref (Alias.alloc2 s v w) = deref s :=
  ⟨(h.alloc v).alloc w, (deref_alloc _ (h.alloc v).store_lt w).trans (deref_alloc s h.store_lt v)⟩

theorem give (h : Sep s) {cs : List Cell}
    (hcs : ∀ c ∈ cs, c < s.next ∧ ∀ t ∈ s.store, t.pc ≠ c ∧ t.mc ≠ c) : Sep (Alias.give s cs) :=
  ⟨h.store_lt,
   fun c hc => (List.mem_append.mp hc).elim (fun hc => (hcs c hc).1) (h.client_lt c),
   fun t ht =>
    ⟨fun hm => (List.mem_append.mp hm).elim (fun hm => ((hcs _ hm).2 t ht).1 rfl) (h.disjoint t ht).1,
     fun hm => (List.mem_append.mp hm).elim (fun hm => ((hcs _ hm).2 t ht).2 rfl) (h.disjoint t ht).2⟩⟩

theorem push (h : Sep s) {t : RTask} (hp : t.pc < s.next ∧ t.mc < s.next)
    (hc : t.pc ∉ s.client ∧ t.mc ∉ s.client) : Sep (Alias.push s t) :=
  ⟨fun u hu => (List.mem_append.mp hu).elim (h.store_lt u) (fun hu => List.mem_singleton.mp hu ▸ hp),
   h.client_lt,
   fun u hu => (List.mem_append.mp hu).elim (h.disjoint u) (fun hu => List.mem_singleton.mp hu ▸ hc)⟩

theorem setPc (h : Sep s) (id : String) {c : Cell} (hp : c < s.next) (hc : c ∉ s.client) :
    Sep (Alias.setPc s id c) := by
  refine ⟨fun u hu => ?_, h.client_lt, fun u hu => ?_⟩ <;>
    obtain ⟨t, ht, rfl⟩ := List.mem_map.mp hu <;> split
  · exact ⟨hp, (h.store_lt t ht).2⟩
  · exact h.store_lt t ht
  · exact ⟨hc, (h.disjoint t ht).2⟩
  · exact h.disjoint t ht

theorem clone2 (h : Sep s) (a b : Cell) : Sep (Alias.clone2 s a b) ∧ deref (Alias.clone2 s a b) = deref s :=
  h.alloc2 _ _

theorem give_alloc2 (h : Sep s) (v w : SMap) :
    Sep (Alias.give (Alias.alloc2 s v w) [s.next, s.next + 1]) ∧
      deref (Alias.give (Alias.alloc2 s v w) [s.next, s.next + 1]) = deref s := by
  refine ⟨(h.alloc2 v w).1.give fun c hc => ?_, (h.alloc2 v w).2⟩
  have : s.next ≤ c ∧ c < s.next + 1 + 1 := by
    simp only [List.mem_cons, List.not_mem_nil, or_false] at hc; omega
  exact ⟨this.2, (h.fresh this.1).2⟩

theorem give_clone2 (h : Sep s) (a b : Cell) :
    Sep (Alias.give (Alias.clone2 s a b) [s.next, s.next + 1]) ∧
      deref (Alias.give (Alias.clone2 s a b) [s.next, s.next + 1]) = deref s :=
  h.give_alloc2 _ _

end Sep

theorem clone2_cells {s : Sys} (a : Cell) {b : Cell} (hb : b < s.next) :
    (clone2 s a b).cells s.next = s.cells a ∧ (clone2 s a b).cells (s.next + 1) = s.cells b := by
  simp [clone2, alloc2, alloc, Nat.ne_of_lt hb]

theorem deref_push (s : Sys) (t : RTask) :
    deref (push s t) = deref s ++ [(t.id, s.cells t.pc, s.cells t.mc)] := by
  simp [deref, push]

theorem deref_setPc (s : Sys) (id : String) (c : Cell) :
    deref (setPc s id c) = (deref s).map fun t => if t.1 == id then (t.1, s.cells c, t.2.2) else t := by
  simp only [deref, setPc, List.map_map]
  apply List.map_congr_left
  intro t _
  simp only [Function.comp]
  split <;> rfl

theorem step_sep (s : Sys) (op : AOp) (h : Sep s) :
    Sep (step {} s op) ∧ deref (step {} s op) = vstep (deref s) op := by
  cases op with
  | add id p m =>
    rw [step_add]
    let s1 := give (alloc2 s p m) [s.next, s.next + 1]
    let s2 := push (clone2 s1 s.next (s.next + 1)) ⟨id, s1.next, s1.next + 1⟩
    -- the client's two cells; their clones into the store; clones of those back to the client
    have h1 : Sep s1 ∧ deref s1 = deref s := h.give_alloc2 p m
    have hc := h1.1.clone2 s.next (s.next + 1)
    have h2 : Sep s2 :=
      hc.1.push ⟨Nat.lt_succ_of_lt (Nat.lt_succ_self _), Nat.lt_succ_self _⟩
        ⟨(h1.1.fresh (Nat.le_refl _)).1, (h1.1.fresh (Nat.le_succ _)).1⟩
    have h3 := h2.give_clone2 s1.next (s1.next + 1)
    refine ⟨h3.1, h3.2.trans ?_⟩
    have hv := clone2_cells (s := s1) s.next (b := s.next + 1) (Nat.lt_succ_self _)
    rw [deref_push, hc.2, h1.2, hv.1, hv.2]
    simp [vstep, s1, alloc2, alloc, give]
  | get id =>
    rw [step_get]
    cases s.store.find? (·.id == id) with
    | none => exact ⟨h, rfl⟩
    | some t => exact h.give_clone2 t.pc t.mc
  | update id p =>
    rw [step_update]
    let s1 := give (alloc s p).1 [s.next]
    have h1 : Sep s1 := (h.alloc p).give fun c hc => by
      rw [List.mem_singleton.mp hc]; exact ⟨Nat.lt_succ_self _, (h.fresh (Nat.le_refl _)).2⟩
    refine ⟨(h1.alloc _).setPc id (Nat.lt_succ_self _) (h1.fresh (Nat.le_refl _)).1, ?_⟩
    rw [deref_setPc, deref_alloc _ h1.store_lt]
    show List.map _ (deref (alloc s p).1) = _
    rw [deref_alloc s h.store_lt]
    simp [vstep, alloc, give]
  | scribble c v =>
    simp only [step]
    split
    · next hin =>
      exact ⟨⟨h.store_lt, h.client_lt, h.disjoint⟩, deref_congr rfl fun t ht =>
        ⟨if_neg fun (e : t.pc = c) => (h.disjoint t ht).1 (e ▸ hin),
         if_neg fun (e : t.mc = c) => (h.disjoint t ht).2 (e ▸ hin)⟩⟩
    · exact ⟨h, rfl⟩

theorem run_sep (ops : List AOp) {s : Sys} (h : Sep s) :
    Sep (run {} s ops) ∧ deref (run {} s ops) = vrun (deref s) ops := by
  induction ops generalizing s with
  | nil => exact ⟨h, rfl⟩
  | cons op rest ih =>
    have ⟨h1, d1⟩ := step_sep s op h
    have ⟨h2, d2⟩ := ih h1
    exact ⟨h2, d2.trans (by rw [d1]; rfl)⟩

end Alias

/-- C19_separation: with every crossing cloning, for every sequence of calls and client scribbles the
cells reachable from the store are disjoint from every cell the client has ever held. -/
theorem C19_separation (ops : List AOp) : Sep (run {} {} ops) :=
  (run_sep ops sep_init).1

/-- C19_value_semantics: …hence the store's contents by value equal the value-semantic run, whatever the
client overwrote after each call. -/
theorem C19_value_semantics (ops : List AOp) : deref (run {} {} ops) = vrun [] ops :=
  (run_sep ops sep_init).2

/-- D13 / D17: a crossing that hands out the stored cell itself lets a client scribble change the store. -/
theorem C19_D13_witness :
    deref (run { cloneOut := false } {} [.add "a" [("k", "v")] [], .get "a", .scribble 2 [("k", "scribbled")]])
      ≠ vrun [] [.add "a" [("k", "v")] [], .get "a", .scribble 2 [("k", "scribbled")]] := by decide

/-- non-vacuity: the same script with cloning crossings keeps the stored value -/
example : deref (run {} {} [.add "a" [("k", "v")] [], .get "a", .scribble 2 [("k", "scribbled")], .scribble 6 [("x", "y")]])
    = [("a", [("k", "v")], [])] := by decide

end Gk
