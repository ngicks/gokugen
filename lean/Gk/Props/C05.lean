/-
C05 — "the scheduler never ends up waiting on an idle timer while a due task exists" (repaired code,
all `Fix` switches on, `Hook.fixed = true`), the witness of the defect of the pinned source (D12), and
what a `Step` over an un-retried `DispatchErr` does: `dispatchTask` sets the restart request when it gives up
(D21), so the task is announced again (`C05_step_over_dispatchErr_now`).

`World.Script`, `World.UserOk` in this file (and in C05prog, C20live, C20rec) are those of `Gk.Live`: users add fresh
ids, update and cancel — starting and stopping the timer are not user actions — and the driver keeps `DriverOk`.
The `World.Script` of the safety files (C03, C04, C06, C20) also lets users start and stop the timer and asks
nothing of the driver.

Shape of the invariant: `LiveInv w` says `w.fix = {}`, a control-flow fact about `lastTask` /
`getNextErr`, and

    Inv w.obs   ∨   (nothing armed ∧ nothing pending ∧ Inv (w.obs with the fire put back) ∧ OwesHeld w)
                ∨   (Obs.Loose w.obs ∧ Restart w)

where `Inv` is the hook-timer invariant of C07 and `OwesHeld w` is a predicate on
`(pc, lastTask, getNextErr, ret)`: the scheduler has consumed the fire and is at `s_getNext`, or holds
a task `t` (`s_nextSched t`, `d_wait t false`, `d_mark t _`, `r_getById t`, `lastTask = some t`,
`ret = DispatchErr t e` with `e` not a repository verdict) that is still scheduled and is the cached
head whenever the cache is trusted (so marking it re-arms), or `getNextErr` is set (with a state that
`Retry` does not hand back to `dispatchTask`), or the timer is being restarted. The third alternative (D21): the
core repository was written without the hook being told (`SAct.markDispatchedCore`), the hook-timer state is only
`Obs.Loose`, and a restart of the timer is pending (`Restart`). `Owes w`, the predicate of
`C05_never_late_or_owed`, is `OwesHeld w ∨ Restart w`.
-/
import Gk.World
import Gk.Proofs.WorldAuto
namespace Gk
open Live

theorem C05_liveInv_init (t0 : Time) : LiveInv (World.init' t0) := LiveInv.init t0

/-- PARTIAL with respect to "every script": besides `UserOk` (users add fresh ids / update / cancel)
the step assumes `DriverOk`: the driver does not call `Step` while the previous call returned a
`DispatchErr` whose error is not a repository verdict (`def.IsDefError`) — it calls `Retry`.
Everything else is arbitrary: user mutations at every call boundary, advances, completions, faults
before/after effect on every scheduler call, hook `GetNext` faults, context cancellation, busy
workers, `Step`/`Retry` in any order, calls that are not enabled (`stuck`).
This is the form over `World.Script`; `DriverOk` is not needed (`C05_liveInv_step`). -/
theorem C05_liveInv_step_partial (w : World) (a : Act) :
    LiveInv w → World.UserOk w a → World.DriverOk w a → LiveInv (w.step a) :=
  fun h hu hd => h.step a hu hd

theorem C05_liveInv_run_partial (t0 : Time) (acts : List Act) :
    World.Script (World.init' t0) acts → LiveInv ((World.init' t0).run acts) :=
  fun hs => (LiveInv.init t0).run acts hs

/-- FULL: the invariant is preserved by every action of every driver (no `DriverOk`):
a `Step` issued over an un-retried `DispatchErr` finds the restart request set and restarts the timer. -/
theorem C05_liveInv_step (w : World) (a : Act) :
    LiveInv w → World.UserOk w a → LiveInv (w.step a) :=
  fun h hu => h.step_free a hu

theorem C05_liveInv_run (t0 : Time) (acts : List Act) :
    World.UserScript (World.init' t0) acts → LiveInv ((World.init' t0).run acts) :=
  fun hs => (LiveInv.init t0).run_free acts hs

/-- between two calls a `DispatchErr` state always comes with the restart request -/
theorem C05_dispatchErr_sets_restart (w : World) (t : Task) (e : Err) :
    LiveInv w → w.pc = .idle → w.ret = .dispatchErr t e → w.getNextErr = true :=
  fun h hpc hr => h.dispatchErr_restart hpc hr

/-- The main statement: under the invariant, between two calls (`pc = idle`) a due scheduled task
implies that the driver's next `Step`/`Retry` makes progress. (Only "a scheduled task exists" is
used.) -/
theorem C05_no_idle_timer (w : World) :
    LiveInv w → w.pc = .idle →
    (∃ t ∈ w.obs.repo.tasks, t.state = .scheduled ∧ t.scheduledAt ≤ w.obs.clock.now) →
    World.WakeUp w := by
  intro h hpc ⟨t, ht, hs, _⟩
  unfold World.WakeUp
  rcases h.hook with hI | ⟨_, _, ho⟩ | ⟨_, hR⟩
  · cases hst : w.obs.hook.started with
    | false => simp
    | true =>
      cases he : w.obs.hook.lastErr with
      | some e => simp
      | none =>
        obtain ⟨hd, hn⟩ := Repo.getNext_isSome_of_scheduled ht hs
        exact (hI.head_timed hst he hn).imp_right fun ⟨d, ha, _⟩ => .inl ⟨d, ha⟩
  · rcases (OwesHeld.at_idle hpc).1 ho with (⟨t, h1, _⟩ | hg) | ⟨t, e, h1, _, _⟩
    · simp [h1]
    · simp [hg]
    · right; right; right; right; right; right; left; exact ⟨t, e, h1⟩
  · -- D21: the hook is out of sync with the repository, the restart request is set
    simp [hR.1]

/-- End-to-end form over scripts (PARTIAL: `Script` contains `DriverOk`, see above). -/
theorem C05_no_idle_timer_run_partial (t0 : Time) (acts : List Act) :
    World.Script (World.init' t0) acts →
    ((World.init' t0).run acts).pc = .idle →
    (∃ t ∈ ((World.init' t0).run acts).obs.repo.tasks,
      t.state = .scheduled ∧ t.scheduledAt ≤ ((World.init' t0).run acts).obs.clock.now) →
    World.WakeUp ((World.init' t0).run acts) :=
  fun hs => C05_no_idle_timer _ (C05_liveInv_run_partial t0 acts hs)

/-- The timer is never set later than the next task. -/
theorem C05_armed_not_late (w : World) (hd : Task) (d : Time) :
    LiveInv w → w.obs.hook.started = true → w.obs.hook.lastErr = none →
    w.obs.repo.getNext = some hd → w.obs.clock.armed = some d → d ≤ hd.scheduledAt :=
  fun h _ he hn ha => (h.loose.early he d ha).1 hd (Repo.getNext_mem hn) (Repo.getNext_scheduled hn)

/-- Stronger, at every pc: with the timer started and no timer error, either a fire is pending, or
the timer is armed NO LATER than the head task is due, or nothing is armed/pending and the scheduler
owes the wake-up (`Owes`). -/
theorem C05_never_late_or_owed (w : World) (hd : Task) :
    LiveInv w → w.obs.hook.started = true → w.obs.hook.lastErr = none →
    w.obs.repo.getNext = some hd →
    w.obs.clock.pending = true ∨ (∃ d, w.obs.clock.armed = some d ∧ d ≤ hd.scheduledAt) ∨
      (w.obs.clock.armed = none ∧ w.obs.clock.pending = false ∧ Owes w) := by
  intro h hst he hn
  rcases h.hook with hI | ⟨hdd, _, ho⟩ | ⟨hl, hR⟩
  · exact (hI.head_timed hst he hn).imp_right .inl
  · exact Or.inr (Or.inr ⟨hdd.1, hdd.2, Or.inl ho⟩)
  · -- D21: the hook is out of sync with the repository (`Obs.Loose`): an armed deadline is still not later than
    -- any scheduled task; a silent timer is covered by the pending restart
    cases har : w.obs.clock.armed with
    | some d => exact Or.inr (Or.inl ⟨d, rfl, C05_armed_not_late w hd d h hst he hn har⟩)
    | none =>
      cases hp : w.obs.clock.pending with
      | true => exact Or.inl rfl
      | false => exact Or.inr (Or.inr ⟨rfl, rfl, Or.inr hR⟩)

/-- What `Owes` means between two calls, where `Restart` is just `getNextErr`. -/
theorem C05_owes_idle (w : World) (hpc : w.pc = .idle) :
    Owes w ↔ (((∃ t, w.lastTask = some t ∧ w.obs.Held t) ∨ (w.getNextErr = true ∧ quietRet w.ret = true)) ∨
      (∃ t e, w.ret = .dispatchErr t e ∧ World.isDefError e = false ∧ w.obs.Held t)) ∨
      w.getNextErr = true := by
  simp [Owes, OwesHeld, Restart, restartPc, hpc, Sticky, LastDebt, DErr]

def C05.t0 : Time := 63808128000000000000
def C05.sec (n : Int) : Time := C05.t0 + n * 1000000000

/-- one fault-free `Step` through the timer branch -/
def C05.stepTimer : List Act :=
  [.sched .beginStep, .sched .lastTimerErr, .sched .selTimer, .sched (.getNext .none),
   .sched .nextScheduled]

/-- add t1 (5 s), advance to 5 s, Step (timer branch: announces t1). -/
def C05.announce : List Act :=
  [.user (.add "t1" { workId := some "w", scheduledAt := some (C05.sec 5) }) none,
   .advance (C05.sec 5)] ++ C05.stepTimer

/-- Non-vacuity of `C05_no_idle_timer` / `C05_no_idle_timer_run_partial`: a script that satisfies
`Script`, ends between two calls with a due scheduled task, with NOTHING armed and NOTHING pending
(the fire is consumed): the wake-up is the announced task. -/
example :
    World.Script (World.init' C05.t0) C05.announce ∧
    ((World.init' C05.t0).run C05.announce).pc = .idle ∧
    ((World.init' C05.t0).run C05.announce).obs.clock.pending = false ∧
    ((World.init' C05.t0).run C05.announce).obs.clock.armed = none ∧
    ((World.init' C05.t0).run C05.announce).obs.hook.started = true ∧
    ((World.init' C05.t0).run C05.announce).obs.hook.lastErr = none ∧
    ((World.init' C05.t0).run C05.announce).lastTask.map (·.id) = some "t1" ∧
    (((World.init' C05.t0).run C05.announce).obs.repo.tasks.map
      (fun t => (t.id, t.state, decide (t.scheduledAt ≤ ((World.init' C05.t0).run C05.announce).obs.clock.now))))
      = [("t1", .scheduled, true)] := by
  decide

/-- Non-vacuity of `C05_armed_not_late`: add t1 (5 s) at time 0: armed exactly at 5 s. -/
example :
    World.Script (World.init' C05.t0) (C05.announce.take 1) ∧
    ((World.init' C05.t0).run (C05.announce.take 1)).obs.clock.armed = some (C05.sec 5) ∧
    ((World.init' C05.t0).run (C05.announce.take 1)).obs.hook.started = true ∧
    ((World.init' C05.t0).run (C05.announce.take 1)).obs.hook.lastErr = none ∧
    ((World.init' C05.t0).run (C05.announce.take 1)).obs.repo.getNext.map (·.id) = some "t1" := by
  decide

/-- announce t1; Step: no worker is acquired before the context is cancelled → `DispatchErr t1 ctx`;
then the driver calls `Step` again (instead of `Retry`) — the call sequence of a `Step` without restart prologue
(`LastTimerUpdateError`, then `select`, where the context ends the wait); not a run of the code. -/
def C05.dropDispatchErr : List Act :=
  C05.announce ++
  [.sched .beginStep, .sched .lastTimerErr, .sched (.waitWorker false),
   .sched .beginStep, .sched .lastTimerErr, .sched .selCtx]

/-- the same situation, the call sequence of the code: the second `Step` finds `getNextErr` set,
stops and starts the timer, finds no timer error, and in `select` the timer branch is ready (t1 is due) -/
def C05.dropDispatchErrNow : List Act :=
  C05.announce ++
  [.sched .beginStep, .sched .lastTimerErr, .sched (.waitWorker false),
   .sched .beginStep, .sched .stopTimer, .sched (.startTimer none), .sched .lastTimerErr,
   .sched .selTimer, .sched (.getNext .none), .sched .nextScheduled]

/-- What happens when the driver calls `Step` (instead of `Retry`) after `DispatchErr(t1, ctx)`:
* the call sequence without restart prologue is not a run of the code: after `beginStep` the automaton is at
  `s_stop` (restart prologue) with `getNextErr` set, its next call (`LastTimerUpdateError`) is not enabled (`stuck`);
* the actual run (`C05.dropDispatchErrNow`; all user actions `UserOk`, `DriverOk` still violated at the third
  `beginStep`, never stuck) restarts the timer and ends between two calls with t1 ANNOUNCED AGAIN
  (`NextTask t1`, `lastTask = t1`, restart request cleared): `WakeUp` holds, nothing is stranded;
* one more `Step` starts the work function of t1. -/
theorem C05_step_over_dispatchErr_now :
    let w := (World.init' C05.t0).run C05.dropDispatchErrNow
    ((World.init' C05.t0).run (C05.dropDispatchErr.take 11)).pc = .s_stop ∧
    ((World.init' C05.t0).run (C05.dropDispatchErr.take 11)).getNextErr = true ∧
    ((World.init' C05.t0).run (C05.dropDispatchErr.take 11)).stuck = false ∧
    ((World.init' C05.t0).run C05.dropDispatchErr).stuck = true ∧
    World.UserScript (World.init' C05.t0) C05.dropDispatchErrNow ∧
    ¬ World.Script (World.init' C05.t0) C05.dropDispatchErrNow ∧
    w.pc = .idle ∧ w.stuck = false ∧
    (w.obs.repo.tasks.map (fun t => (t.id, t.state, decide (t.scheduledAt ≤ w.obs.clock.now))))
      = [("t1", .scheduled, true)] ∧
    (match w.ret with | .nextTask (some t) none => t.id == "t1" | _ => false) = true ∧
    w.lastTask.map (·.id) = some "t1" ∧ w.getNextErr = false ∧
    World.WakeUp w ∧
    (let w' := w.run [.sched .beginStep, .sched .lastTimerErr, .sched (.waitWorker true),
        .sched (.markDispatched .none none), .sched (.getById .none)]
     w'.pc = .idle ∧ w'.stuck = false ∧ w'.ret = .dispatched "t1" ∧ w'.log.map (·.id) = ["t1"]) := by
  decide

/-- The same situation with the driver keeping its part (`Retry`): the task is run. -/
example :
    let acts := C05.announce ++
      [.sched .beginStep, .sched .lastTimerErr, .sched (.waitWorker false),
       .sched .beginRetry, .sched (.getById .none), .sched (.waitWorker true),
       .sched (.markDispatched .none none), .sched (.getById .none)]
    World.Script (World.init' C05.t0) acts ∧
    ((World.init' C05.t0).run acts).pc = .idle ∧
    ((World.init' C05.t0).run acts).log.map (·.id) = ["t1"] ∧
    ((World.init' C05.t0).run acts).ret = .dispatched "t1" := by
  decide

/-- add t2 (5 s, prio 1); update t2 (prio 0, 15 s) — the hook marks its cache stale, the timer stays
armed at 5 s; advance to 5 s; Step: the timer branch reads t2 at 15 s, the cached time is 5 s →
`ErrScheduleStoppedOrChanged`; advance to 15 s. -/
def C05.d12 : List Act :=
  [.user (.add "t2" { workId := some "w", scheduledAt := some (C05.sec 5), priority := some 1 }) none,
   .user (.update "t2" { priority := some 0, scheduledAt := some (C05.sec 15) }) none,
   .advance (C05.sec 5)] ++ C05.stepTimer ++ [.advance (C05.sec 15)]

/-- the pinned source: `ErrScheduleStoppedOrChanged` does not remember to restart the timer -/
def C05.origInit : World := { World.init' C05.t0 with fix := { restartOnChanged := false } }

/-- With `restartOnChanged = false` the scheduler ends between two calls with t2 scheduled and due,
nothing pending, nothing armed, no restart flag, no announced task, a non-retryable state:
`WakeUp` is false — `Step` blocks forever (D12). -/
theorem C05_D12_witness :
    let w := C05.origInit.run C05.d12
    World.Script C05.origInit C05.d12 ∧
    w.pc = .idle ∧ w.stuck = false ∧
    w.ret = .nextTask none (some .schedChanged) ∧
    (w.obs.repo.tasks.map (fun t => (t.id, t.state, decide (t.scheduledAt ≤ w.obs.clock.now))))
      = [("t2", .scheduled, true)] ∧
    ¬ World.WakeUp w := by
  decide

/-- The same script on the repaired code: `getNextErr` is set, the next `Step` restarts the timer
(instance of `C05_no_idle_timer_run_partial`). -/
theorem C05_D12_fixed :
    let w := (World.init' C05.t0).run C05.d12
    World.Script (World.init' C05.t0) C05.d12 ∧ w.pc = .idle ∧ w.getNextErr = true ∧
      World.WakeUp w := by
  decide

/-! ### Progress of the fair fault-free driver (PARTIAL)

`Live.driveRound w` is ONE call of the fair fault-free driver on a world between two calls:
`Retry` if the last returned state is retryable (`Live.retryable`), else `Step`; every scheduler call
succeeds without fault, a worker is always free, the context is never cancelled, no user mutation
interferes; inside `select` the timer branch is taken if a fire is pending, else the oldest queued
completion, else — nothing being ready — the environment first completes the oldest running work
function, else advances the clock to the armed deadline; only if nothing at all can happen the call
ends with `AwaitingNext` (`Live.autoAct`, `Live.drive`). -/
theorem C05_round_ends (w : World) : (driveRound w).pc = .idle := driveRound_idle w

theorem C05_round_invariants (w : World) :
    LiveInv w → StartedOk w → DispInv w → w.pc = .idle →
    LiveInv (driveRound w) ∧ StartedOk (driveRound w) ∧ DispInv (driveRound w) := by
  intro hL hS hD hpc
  exact ⟨(round_inv hL hS hpc).1, (round_inv hL hS hpc).2.1, hD.drive hL 12⟩

/-- The invariants hold after every script from `init'`. -/
theorem C05_round_invariants_init (t0 : Time) (acts : List Act) :
    World.Script (World.init' t0) acts →
    LiveInv ((World.init' t0).run acts) ∧ StartedOk ((World.init' t0).run acts) ∧
      DispInv ((World.init' t0).run acts) :=
  fun hs => ⟨(LiveInv.init t0).run acts hs, (StartedOk.init t0).run acts hs,
    (DispInv.init t0).run (LiveInv.init t0) acts hs⟩

/-- Liveness core: the fair fault-free driver never blocks while a task is scheduled — a round that
returns `AwaitingNext` (the only blocking exit of `Step`) leaves NO scheduled task behind, due or
not. -/
theorem C05_round_never_blocks (w : World) :
    LiveInv w → StartedOk w → w.pc = .idle → (driveRound w).ret = .awaitingNext →
    ∀ t ∈ (driveRound w).obs.repo.tasks, t.state ≠ .scheduled :=
  fun hL hS hpc hr => round_never_blocks hL hS hpc hr

/-- Blocked inside `select` with a healthy timer and a scheduled task: the timer is pending or armed
(state form of the previous theorem). -/
theorem C05_select_not_idle (w : World) (hd : Task) :
    LiveInv w → w.pc = .s_select → w.obs.hook.started = true → w.obs.hook.lastErr = none →
    w.obs.repo.getNext = some hd →
    w.obs.clock.pending = true ∨ ∃ d, w.obs.clock.armed = some d ∧ d ≤ hd.scheduledAt := by
  intro h hpc hst he hn
  rcases C05_never_late_or_owed w hd h hst he hn with h1 | h1 | ⟨_, _, ho⟩
  · exact Or.inl h1
  · exact Or.inr h1
  · simp [Owes, OwesHeld, Restart, restartPc, hpc] at ho

/-- OBSERVATION (why `lastErr = none` is a hypothesis above, and why liveness of a blocked `Step`
rests on its context): `Step` is blocked in `select`; a user `AddTask` whose hook fails in `GetNext`
records the error and leaves the timer unarmed; the task becomes due, yet nothing is pending or
armed — the blocked `Step` is not woken by the error. It returns only when its context ends
(`AwaitingNext`); between the calls `WakeUp` then holds through `LastTimerUpdateError` and the next
`Step` restarts the timer. The script satisfies `Script`, so `LiveInv` holds throughout. -/
theorem C05_select_hook_fault_witness :
    let acts : List Act :=
      [.sched .beginStep, .sched .lastTimerErr,
       .user (.add "t1" { workId := some "w", scheduledAt := some (C05.sec 5) }) (some .other),
       .advance (C05.sec 5)]
    let w := (World.init' C05.t0).run acts
    World.Script (World.init' C05.t0) acts ∧ w.pc = .s_select ∧
    w.obs.clock.pending = false ∧ w.obs.clock.armed = none ∧ w.obs.hook.lastErr = some .other ∧
    (w.obs.repo.tasks.map (fun t => (t.id, t.state, decide (t.scheduledAt ≤ w.obs.clock.now))))
      = [("t1", .scheduled, true)] ∧
    World.WakeUp (w.step (.sched .selCtx)) := by
  decide

theorem C05_round_announce (w : World) (hd : Task) :
    Inv w.obs → w.pc = .idle → retryable w.ret = false → w.getNextErr = false →
    w.obs.hook.started = true → w.obs.hook.lastErr = none → w.lastTask = none →
    w.obs.clock.pending = true → w.obs.hook.stale = false → w.obs.repo.getNext = some hd →
    hd.scheduledAt ≤ w.obs.clock.now →
    driveRound w = afterAnnounce w hd :=
  fun hI hpc hq hg hst he hl hp hs hn hdue => round_announce hI hpc hq hg hst he hl hp hs hn hdue

theorem C05_round_restart_announce (w : World) (hd : Task) :
    w.pc = .idle → retryable w.ret = false → w.getNextErr = true → w.lastTask = none →
    w.obs.repo.getNext = some hd → hd.scheduledAt ≤ w.obs.clock.now →
    driveRound w = afterAnnounce { w with obs := restartedDue w.obs hd } hd :=
  fun hpc hq hg hl hn hdue => round_restart_announce hpc hq hg hl hn hdue

theorem C05_round_dispatch (w : World) (t u : Task) :
    w.pc = .idle → retryable w.ret = false → w.getNextErr = false → w.obs.hook.lastErr = none →
    w.lastTask = some t → w.obs.repo.lookup t.id = some u → u.state = .scheduled →
    driveRound w = afterDispatch w t
      { u with state := .dispatched, dispatchedAt := some (normalize w.obs.clock.now) } :=
  fun hpc hq hg he hl hu hs => round_dispatch hpc hq hg he hl hu hs

/-- PARTIAL progress: between two calls, with a healthy timer, nothing announced, a non-retryable
last state and a DUE head `hd`, if the restart flag is set, or a fire is pending and the cache is
trusted, then TWO rounds of the fair fault-free driver start the work function of `hd`: the log grows
by exactly the entry of `hd` (handed over in state `dispatched`, at the current time), `hd` is stored
as dispatched, the driver holds `Dispatched hd.id`, and nothing is left announced. -/
theorem C05_progress_partial (w : World) (hd : Task) :
    LiveInv w → w.pc = .idle → retryable w.ret = false → w.lastTask = none →
    w.obs.hook.started = true → w.obs.hook.lastErr = none →
    w.obs.repo.getNext = some hd → hd.scheduledAt ≤ w.obs.clock.now →
    (w.getNextErr = true ∨
      (w.getNextErr = false ∧ w.obs.clock.pending = true ∧ w.obs.hook.stale = false)) →
    let cur : Task := { hd with state := .dispatched, dispatchedAt := some (normalize w.obs.clock.now) }
    let w2 := rounds 2 w
    w2.pc = .idle ∧ w2.ret = .dispatched hd.id ∧ w2.lastTask = none ∧ w2.getNextErr = false ∧
    w2.log = w.log ++ [{ id := hd.id, at_ := w.obs.clock.now, task := cur }] ∧
    w2.running = w.running ++ [(hd.id, cur)] ∧
    w2.obs.repo.lookup hd.id = some cur := by
  intro hL hpc hq hl hst he hn hdue hc cur w2
  obtain ⟨w1, h1, _, hrepo, hnow, hlog, hrun, h2⟩ := two_rounds_run_head hL hpc hq hl hst he hn hdue hc
  have hw2 : w2 = afterDispatch w1 hd cur := by
    show rounds 2 w = _
    simp only [rounds, h1, h2, cur]
  have hlk : w1.obs.repo.lookup hd.id = some hd := by
    rw [hrepo]; exact head_lookup hL.tasksOk hn
  have hd2 := (dispatch_step_scheduled w1.obs hd.id none hlk (Repo.getNext_scheduled hn)).2
  rw [hw2]
  refine ⟨rfl, rfl, rfl, rfl, ?_, ?_, ?_⟩
  · simp only [afterDispatch, hlog, hnow]
  · simp only [afterDispatch, hrun]
  · simp only [afterDispatch, hd2, hnow, cur]

/-- Non-vacuity of `C05_progress_partial` (fire pending, trusted cache) and a run of the fair driver
to quiescence: add t1 (5 s) and t2 (7 s), advance to 5 s; two rounds start t1; after 6 rounds both work
functions ran, both results are recorded, nothing is scheduled, running or queued, and the seventh
round blocks (`AwaitingNext`) — legitimately, by `C05_round_never_blocks`. -/
example :
    let acts : List Act :=
      [.user (.add "t1" { workId := some "w", scheduledAt := some (C05.sec 5) }) none,
       .user (.add "t2" { workId := some "w", scheduledAt := some (C05.sec 7) }) none,
       .advance (C05.sec 5)]
    let w := (World.init' C05.t0).run acts
    World.Script (World.init' C05.t0) acts ∧
    w.pc = .idle ∧ retryable w.ret = false ∧ w.lastTask = none ∧ w.obs.hook.started = true ∧
    w.obs.hook.lastErr = none ∧ w.obs.repo.getNext.map (·.id) = some "t1" ∧
    w.getNextErr = false ∧ w.obs.clock.pending = true ∧ w.obs.hook.stale = false ∧
    (rounds 2 w).log.map (·.id) = ["t1"] ∧
    (rounds 6 w).log.map (fun e => (e.id, decide (e.task.scheduledAt ≤ e.at_))) =
      [("t1", true), ("t2", true)] ∧
    (rounds 6 w).obs.repo.tasks.map (fun t => (t.id, t.state)) = [("t1", .done), ("t2", .done)] ∧
    (rounds 6 w).running = [] ∧ (rounds 6 w).completed = [] ∧
    (rounds 6 w).ret ≠ .awaitingNext ∧ (rounds 7 w).ret = .awaitingNext := by
  decide

/-- Non-vacuity of the restart case: the D12 script on the repaired code ends with `getNextErr` set
and t2 due; two rounds start t2. -/
example :
    let w := (World.init' C05.t0).run C05.d12
    w.pc = .idle ∧ retryable w.ret = false ∧ w.lastTask = none ∧ w.getNextErr = true ∧
    w.obs.repo.getNext.map (·.id) = some "t2" ∧
    (rounds 2 w).log.map (·.id) = ["t2"] ∧ (rounds 2 w).ret = .dispatched "t2" := by
  decide

end Gk
