/-
Axiom audit for C10 (linearizability). Only `propext`, `Classical.choice`, `Quot.sound` may appear.
-/
import Gk.Props.C10
open Gk Gk.Lin

#print axioms Lin_sound
#print axioms Lin_complete
#print axioms Lin_iff
#print axioms Lin_respectsRealTime_spec
#print axioms Lin_perm_invariant
#print axioms C10_sections_respect_real_time
#print axioms C10_atomic_sections_gen
#print axioms C10_atomic_sections
#print axioms C10_atomic_sections_list
#print axioms C10_runAtomic_linearizable
#print axioms C10_conflict
#print axioms C10_conflict_race_wf
#print axioms C10_conflict_race
#print axioms C10_ex_linearizable
#print axioms C10_ex_not_linearizable
#print axioms C10_ex_repaired
#print axioms C10_ex_race
#print axioms C10_ex_atomic
#print axioms Gk.Lin.cons_eraseIdx_perm
#print axioms Gk.Lin.minimalAt_iff
#print axioms Gk.Lin.search_succ_iff
#print axioms Gk.Lin.search_sound
#print axioms Gk.Lin.search_complete
#print axioms Gk.Lin.respectsRealTime_iff_pairwise
#print axioms Gk.Lin.AtomicSections.respectsRealTime
#print axioms Gk.Lin.AtomicSectionsL.toFun
#print axioms Gk.Lin.replays_runAtomic
#print axioms Gk.Lin.lookup_replace
