/-
Tie theorems, `scheduler/scheduler.go`: `Step` and `Retry` (with `dispatchTask`, `setGetNextResult`) as generated from
the CURRENT Go source (Gk/Gen/Scheduler.lean) drive the program-counter automaton `Gk.World.sched` (Gk/World.lean) —
the model that C03–C06 and C20 are proved about — CORRECTLY, whatever the environment does between two of their calls:

* it never makes a call the automaton does not expect at its program counter (the world never gets `stuck`),
* when the method returns the automaton is back at `idle`,
* the returned `StepState` is the automaton's `ret` (for `Retry` up to the `State` of the zero task on one path:
  `DroveRetryP`, `tie_sched_Retry_false`),
* Go's private fields `lastTask` / `getNextErr` are the automaton's.

The environment `orc.env k` (applied before the k-th scheduler action) is ANY function on worlds that leaves the
scheduler's own registers alone (`EnvOk`): user mutations, time, completions of work functions, context cancellation
are instances. Faults, the worker's availability and the preferred `select` case are the other fields of `orc`.
-/
import Gk.Gen.Scheduler
import Gk.Proofs.SchedEq
import Gk.Props.TieDef
namespace Gk.Tie
open Gk Gk.Gen Gk.Gen.Scheduler

def EnvOk (env : Nat → World → World) : Prop :=
  ∀ k w, (env k w).pc = w.pc ∧ (env k w).lastTask = w.lastTask ∧ (env k w).getNextErr = w.getNextErr ∧
    (env k w).ret = w.ret ∧ (env k w).fix = w.fix ∧ (env k w).stuck = w.stuck

/-- the Go-shaped scheduler that stands for the world `w` between two calls -/
def mkSched (w : World) (orc : SchedOrc) : GoSched :=
  { w := w, lastTask := w.lastTask.map toGenT,
    getNextErr := if w.getNextErr then some (.other "getNextErr") else none, orc := orc, k := 0 }

/-- the automaton's `ret` in Go's shape -/
def ssGo : SS → GoStepState
  | .zero => .zero
  | .timerUpdateError e => .timerUpdateError (some (goErrS e))
  | .awaitingNext => .awaitingNext none
  | .nextTask (some t) _ => .nextTask (toGenT t) none
  | .nextTask none e => .nextTask default (e.map goErrS)
  | .dispatchErr t e => .dispatchErr (toGenT t) (some (goErrS e))
  | .dispatched id => .dispatched id
  | .taskDone id o ue => .taskDone id (GoSched.outcomeGo o) (ue.map goErrS)

/-- `StateAwaitingNext(ctx.Err())` carries the context's error, which the model does not record -/
def normSt : GoStepState → GoStepState
  | .awaitingNext _ => .awaitingNext none
  | s => s

/-- what "the generated method drove the automaton correctly" means -/
structure Drove (r : GoSched × GoStepState) : Prop where
  not_stuck : r.1.w.stuck = false
  idle : r.1.w.pc = .idle
  ret : normSt r.2 = ssGo r.1.w.ret
  lastTask : r.1.lastTask = r.1.w.lastTask.map toGenT
  getNextErr : r.1.getNextErr.isSome = r.1.w.getNextErr


structure WRegs (w : World) (p : Pc) (lt : Option Gk.Task) (g : Bool) : Prop where
  pc : w.pc = p
  ns : w.stuck = false
  fix : w.fix = {}
  lt : w.lastTask = lt
  gne : w.getNextErr = g

/-- at a call boundary the automaton's registers and Go's copies agree -/
structure Regs (s : GoSched) (p : Pc) (lt : Option Gk.Task) (g : Bool) : Prop where
  env : EnvOk s.orc.env
  w : WRegs s.w p lt g
  glt : s.lastTask = lt.map toGenT
  ggne : s.getNextErr.isSome = g

@[go_rt] theorem errOfResp_some (e : Err) : GoSched.errOfResp (.err (some e)) = some (goErrS e) := rfl
@[go_rt] theorem errOfResp_none : GoSched.errOfResp (.err none) = none := rfl

variable {w : World} {s : GoSched} {p : Pc} {lt : Option Gk.Task} {g : Bool}

/-- whatever else an action changes -/
theorem WRegs.frame (h : WRegs w p lt g) {o p' r c l rp cd} :
    WRegs { w with obs := o, pc := p', running := r, completed := c, log := l, reported := rp, ctxDone := cd }
      p' lt g :=
  ⟨rfl, h.ns, h.fix, h.lt, h.gne⟩

theorem WRegs.goto (h : WRegs w p lt g) (p' : Pc) : WRegs { w with pc := p' } p' lt g := h.frame

theorem WRegs.finish (h : WRegs w p lt g) (ss : SS) : WRegs (w.finish ss) .idle lt g :=
  ⟨rfl, h.ns, h.fix, h.lt, h.gne⟩

theorem WRegs.finishDE (h : WRegs w p lt g) (ss : SS) : WRegs (w.finishDE ss) .idle lt true :=
  ⟨rfl, h.ns, h.fix, h.lt, rfl⟩

theorem WRegs.afterPrologue_none (h : WRegs w p none g) : WRegs w.afterPrologue .s_select none false := by
  rw [World.afterPrologue_none h.lt]; exact ⟨rfl, h.ns, h.fix, h.lt, rfl⟩

theorem WRegs.afterPrologue_some {t : Gk.Task} (h : WRegs w p (some t) g) :
    WRegs w.afterPrologue (.d_wait t false) none false := by
  rw [World.afterPrologue_some h.lt]; exact ⟨rfl, h.ns, h.fix, rfl, rfl⟩

theorem Regs.envw (h : Regs s p lt g) : WRegs (s.orc.env s.k s.w) p lt g := by
  obtain ⟨e1, e2, e3, -, e5, e6⟩ := h.env s.k s.w
  exact ⟨e1.trans h.w.pc, e6.trans h.w.ns, e5.trans h.w.fix, e2.trans h.w.lt, e3.trans h.w.gne⟩

/-- ONE CALL of a repository / dispatcher shim: the environment moves (keeping the registers, and `ret`), then the
automaton takes the action. The world in between is all a proof needs to name. -/
theorem Regs.call_ret (h : Regs s p lt g) (a : SAct) :
    ∃ w1, WRegs w1 p lt g ∧ w1.ret = s.w.ret ∧
      ∀ w' r, w1.sched a = (w', r) → s.act a = ({ s with w := w', k := s.k + 1 }, r) :=
  ⟨_, h.envw, (h.env s.k s.w).2.2.2.1, fun w' r hs => by simp only [GoSched.act, hs]⟩

theorem Regs.call (h : Regs s p lt g) (a : SAct) :
    ∃ w1, WRegs w1 p lt g ∧ ∀ w' r, w1.sched a = (w', r) → s.act a = ({ s with w := w', k := s.k + 1 }, r) :=
  let ⟨w1, hw, _, hact⟩ := h.call_ret a
  ⟨w1, hw, hact⟩

theorem Regs.next (h : Regs s p lt g) {w' : World} {p' : Pc} (hw : WRegs w' p' lt g) :
    Regs { s with w := w', k := s.k + 1 } p' lt g :=
  ⟨h.env, hw, h.glt, h.ggne⟩

theorem Regs.drove {st : GoStepState} (h : Regs s .idle lt g) (hr : normSt st = ssGo s.w.ret) : Drove (s, st) :=
  ⟨h.w.ns, h.w.pc, hr, h.glt.trans (by rw [h.w.lt]), h.ggne.trans h.w.gne.symm⟩

theorem regs_stop (h : Regs s .s_stop lt g) : Regs (GoSched.repoStopTimer s) .s_start lt g := by
  obtain ⟨w1, hw, hact⟩ := h.call .stopTimer
  rw [GoSched.repoStopTimer, hact _ _ (World.sched_stop hw.pc)]
  exact h.next hw.frame

theorem regs_start (ctx : Ctx) (h : Regs s .s_start lt g) :
    Regs (GoSched.repoStartTimer s ctx) .s_lastErr1 lt g := by
  obtain ⟨w1, hw, hact⟩ := h.call (.startTimer s.orc.hookFault)
  rw [GoSched.repoStartTimer, hact _ _ (World.sched_start hw.pc _)]
  exact h.next hw.frame

/-! the tail of `Step` (the translator duplicates it three times), cut into named pieces -/

/-- after `GetNext` succeeded: compare with the hook timer's `NextScheduled` and the clock -/
def nsArm (s : GoSched) (next_ : Def.Task) : GoSched × GoStepState :=
  let (s, nextScheduled, ok) := (GoSched.repoNextScheduled s)
  if (((!ok) || (!((nextScheduled).Equal next_.ScheduledAt))) || ((next_.ScheduledAt).After (GoSched.clockNow s))) then
    let s := (Scheduler.setGetNextResult s (default : Def.Task) ErrScheduleStoppedOrChanged)
    (s, (StateNextTask (default : Def.Task) ErrScheduleStoppedOrChanged))
  else
    let s := (Scheduler.setGetNextResult s next_ Go.nil)
    (s, (StateNextTask next_ Go.nil))

/-- the timer arm of the `select` -/
def timerArm (s : GoSched) (ctx : Ctx) : GoSched × GoStepState :=
  let (s, next_, err) := (GoSched.repoGetNext s ctx)
  if (!(Go.isNil err)) then
    let s := (Scheduler.setGetNextResult s (default : Def.Task) err)
    (s, (StateNextTask (default : Def.Task) err))
  else nsArm s next_

/-- the result arm of the `select` -/
def resultArm (s : GoSched) (ctx : Ctx) (res : GoTaskResult) : GoSched × GoStepState :=
  let err : GoError := default
  if (!(Go.errors_Is res.err Go.context_Canceled)) then
    let (s, err) := (GoSched.repoMarkAsDone s ctx res.beforeDispatch.Id res.err)
    (s, (StateTaskDone res.beforeDispatch.Id res.err err))
  else
    (s, (StateTaskDone res.beforeDispatch.Id res.err err))

/-- the `select` -/
def selTail (s : GoSched) (ctx : Ctx) : GoSched × GoStepState :=
  let (s, selCase) := (GoSched.selectCase s)
  match selCase with
  | .ctxDone => (s, (StateAwaitingNext ((ctx).Err)))
  | .result res => resultArm s ctx res
  | .timer => timerArm s ctx

/-- everything after the restart prologue -/
def stepTail (s : GoSched) (ctx : Ctx) : GoSched × GoStepState :=
  let s := { s with getNextErr := Go.nil }
  if (!(Go.isNil s.lastTask)) then
    let next_ := (s.lastTask).Value
    let s := { s with lastTask := Go.nil }
    (Scheduler.dispatchTask s ctx next_ false)
  else selTail s ctx

/-- look at the timer error after a restart -/
def lastErr1Arm (s : GoSched) (ctx : Ctx) : GoSched × GoStepState :=
  let (s, err) := (GoSched.repoLastTimerUpdateError s)
  if (!(Go.isNil err)) then (s, (StateTimerUpdateError err)) else stepTail s ctx

/-- stop, start, look at the timer error -/
def restartArm (s : GoSched) (ctx : Ctx) : GoSched × GoStepState :=
  let s := (GoSched.repoStopTimer s)
  let s := (GoSched.repoStartTimer s ctx)
  lastErr1Arm s ctx

/-- `getNextErr == nil`: look at the timer error first -/
def lastErr0Arm (s : GoSched) (ctx : Ctx) : GoSched × GoStepState :=
  let (s, hv1) := (GoSched.repoLastTimerUpdateError s)
  if (!(Go.isNil hv1)) then restartArm s ctx else stepTail s ctx

/-- the fetcher closure `dispatchTask` hands to the dispatcher -/
def fetcher (next_ : Def.Task) (isRetry : Bool) : Ctx → GoSched → GoSched × Def.Task × GoError :=
  fun (ctx : Ctx) (s : GoSched) =>
    let err : GoError := default
    if (!isRetry) then
      let (s, err) := (GoSched.repoMarkAsDispatched s ctx next_.Id)
      if (!(Go.isNil err)) then
        (s, (default : Def.Task), err)
      else
        let (s, task, err) := (GoSched.repoGetById s ctx next_.Id)
        if (!(Go.isNil err)) then
          (s, (default : Def.Task), err)
        else
          (s, task, Go.nil)
    else
      if (!(Go.isNil err)) then
        (s, (default : Def.Task), err)
      else
        let (s, task, err) := (GoSched.repoGetById s ctx next_.Id)
        if (!(Go.isNil err)) then
          (s, (default : Def.Task), err)
        else
          (s, task, Go.nil)

theorem dispatchTask_eq (s : GoSched) (ctx : Ctx) (next_ : Def.Task) (isRetry : Bool) :
    Scheduler.dispatchTask s ctx next_ isRetry =
    (let (s, errCh, dispatchErr) := (GoSched.dispatch s ctx (fetcher next_ isRetry))
     if (!(Go.isNil dispatchErr)) then
       let s := { s with getNextErr := dispatchErr }
       (s, (StateDispatchErr next_ dispatchErr))
     else
       let s := (GoSched.reserve s (fun (_ : Unit) =>
           let err := (Go.chanRecv errCh)
           ({ beforeDispatch := next_, err := err } : taskResult)))
       (s, (StateDispatched next_.Id))) := by
  unfold Scheduler.dispatchTask fetcher
  rfl

theorem Step_eq (s : GoSched) (ctx : Ctx) : Scheduler.Step s ctx =
    (let s := GoSched.beginStep s
     if (!(Go.isNil s.getNextErr)) then restartArm s ctx else lastErr0Arm s ctx) := by
  -- unfolded by name first: `rfl` alone finds the three copies of the tail five times dearer
  unfold Scheduler.Step restartArm lastErr0Arm restartArm lastErr1Arm stepTail selTail timerArm resultArm nsArm
  rfl


theorem default_goError : (default : GoError) = none := rfl
theorem toGenT_Id (t : Gk.Task) : (toGenT t).Id = t.id := rfl

theorem go_cond_eq (ok : Bool) (ns a now : Int) :
    (((!ok) || (!(Int.Equal ns a))) || (Int.After a now)) =
      (!ok || ns != a || !(!true || decide (a ≤ now))) := by
  have : decide (now < a) = !decide (a ≤ now) := by
    by_cases h : a ≤ now
    · simp [h]
    · simp [h]; omega
  cases ok <;> simp [Int.Equal, Int.After, bne, this]

theorem drove_nextSched {t : Gk.Task} (h : Regs s (.s_nextSched t) none false) :
    Drove (nsArm s (toGenT t)) := by
  obtain ⟨w1, hw, hact⟩ := h.call .nextScheduled
  have hs := World.sched_nextSched hw.pc
  rw [hw.fix] at hs
  split at hs <;> rename_i hc <;> simp only [nsArm, GoSched.repoNextScheduled, hact _ _ hs, go_cond_eq]
    <;> split
  · exact Regs.drove (lt := none) (g := true) ⟨h.env, ⟨rfl, hw.ns, rfl, hw.lt, rfl⟩, rfl, rfl⟩ rfl
  · exact absurd hc ‹_›
  · exact absurd ‹_› hc
  · exact Regs.drove (lt := some t) (g := false) ⟨h.env, ⟨rfl, hw.ns, rfl, rfl, rfl⟩, rfl, rfl⟩ rfl

theorem drove_timerArm (ctx : Ctx) (h : Regs s .s_getNext none false) : Drove (timerArm s ctx) := by
  obtain ⟨w1, hw, hact⟩ := h.call (.getNext s.orc.fGetNext)
  have hs := World.sched_getNext hw.pc s.orc.fGetNext
  split at hs
  · rw [timerArm, GoSched.repoGetNext, hact _ _ hs]
    exact Regs.drove (lt := none) (g := true) ⟨h.env, ⟨rfl, hw.ns, hw.fix, rfl, rfl⟩, rfl, rfl⟩ rfl
  · split at hs
    · rw [timerArm, GoSched.repoGetNext, hact _ _ hs]
      exact Regs.drove (lt := none) (g := true) ⟨h.env, ⟨rfl, hw.ns, hw.fix, rfl, rfl⟩, rfl, rfl⟩ rfl
    · rw [timerArm, GoSched.repoGetNext, hact _ _ hs]
      exact drove_nextSched (h.next hw.frame)

theorem drove_markDone {id : String} {o : Outcome} (ctx : Ctx) (id' : String) (e' : GoError)
    (h : Regs s (.s_markDone id o) none false) :
    Drove ((GoSched.repoMarkAsDone s ctx id' e').1,
      StateTaskDone id (GoSched.outcomeGo o) (GoSched.repoMarkAsDone s ctx id' e').2) := by
  obtain ⟨w1, hw, hact⟩ := h.call (.markDone s.orc.fMarkDone)
  obtain ⟨ob, e, hs⟩ := World.sched_markDone_fin hw.pc s.orc.fMarkDone
  rw [GoSched.repoMarkAsDone, hact _ _ hs]
  exact (h.next (hw.frame.finish _)).drove (by cases e <;> rfl)

theorem errorsIs_outcome (o : Outcome) :
    Go.errors_Is (GoSched.outcomeGo o) Go.context_Canceled = (o == .ctxCanceled) := by
  cases o with
  | nil => rfl
  | ctxCanceled => decide
  | err m =>
    have h1 : (GoErr.other m == GoErr.sentinel "context canceled") = false := by simp
    have h2 : (Outcome.err m == Outcome.ctxCanceled) = false := by simp
    simp only [GoSched.outcomeGo, Go.errors_Is, Go.context_Canceled, Go.isErr, h1, h2]

theorem drove_selTail (ctx : Ctx) (h : Regs s .s_select none false) : Drove (selTail s ctx) := by
  have hw := h.envw
  generalize hw1 : s.orc.env s.k s.w = w1 at hw
  by_cases he : GoSched.selEnabled w1 s.orc.sel = true
  · cases hsel : s.orc.sel with
    | selTimer =>
      rw [hsel] at he
      have hs := World.sched_selTimer hw.pc
      rw [if_pos (c := w1.obs.clock.consume.2 = true) he] at hs
      simp only [selTail, GoSched.selectCase, hw1, hsel, if_pos he, hs]
      exact drove_timerArm ctx (h.next hw.frame)
    | selResult id =>
      rw [hsel] at he
      obtain ⟨⟨id', o⟩, hfind⟩ := Option.isSome_iff_exists.mp he
      have hs := World.sched_selResult hw.pc id
      simp only [hfind] at hs
      split at hs <;> rename_i ho <;>
        simp only [selTail, GoSched.selectCase, hw1, hsel, if_pos he, hs, hfind, resultArm, errorsIs_outcome, ho,
          Option.map_some, Option.getD_some]
      · exact (h.next (hw.frame.finish _)).drove rfl
      · exact drove_markDone ctx _ _ (h.next hw.frame)
    | _ => simp [GoSched.selEnabled, hsel] at he
  · simp only [selTail, GoSched.selectCase, hw1, if_neg he, World.sched_selCtx hw.pc]
    exact (h.next (hw.finish _)).drove rfl

/-- what the fetcher leaves behind: the automaton has finished, with `dispatchErr` iff the fetcher failed — and then
the automaton has already set its restart request (`finishDE`), which Go's `dispatchTask` sets after `Dispatch` has
returned the error; Go's copy of `getNextErr` is still the one before the call -/
inductive FetchPost (t : Gk.Task) (lt : Option Gk.Task) (g : Bool) : GoSched × Def.Task × GoError → Prop
  | fail {s : GoSched} {task : Def.Task} (e : Err) : EnvOk s.orc.env → WRegs s.w .idle lt true →
      s.w.ret = .dispatchErr t e → s.lastTask = lt.map toGenT → FetchPost t lt g (s, task, some (goErrS e))
  | ok {s : GoSched} {task : Def.Task} : Regs s .idle lt g → s.w.ret = .dispatched t.id →
      FetchPost t lt g (s, task, none)

theorem get_post {t : Gk.Task} (ctx : Ctx) (id' : String) (h : Regs s (.d_get t) lt g) :
    FetchPost t lt g (GoSched.repoGetById s ctx id') := by
  obtain ⟨w1, hw, hact⟩ := h.call (.getById s.orc.fGet)
  obtain ⟨e, hs⟩ | ⟨r, l, cur, hs⟩ := World.sched_get_fin hw.pc s.orc.fGet <;> rw [GoSched.repoGetById, hact _ _ hs]
  · exact .fail e h.env (hw.finishDE _) rfl h.glt
  · exact .ok (h.next (hw.frame.finish _)) rfl

/-- the `if err != nil { return zero, err }; return task, nil` both branches of the fetcher end with -/
theorem FetchPost.tail {t : Gk.Task} {r : GoSched × Def.Task × GoError} (hp : FetchPost t lt g r) :
    FetchPost t lt g (if (!(Go.isNil r.2.2)) then (r.1, default, r.2.2) else (r.1, r.2.1, Go.nil)) := by
  cases hp with
  | fail e a b c d => exact .fail e a b c d
  | ok a b => exact .ok a b

theorem fetch_post {t : Gk.Task} (ctx : Ctx) (next_ : Def.Task) (h : Regs s (.d_mark t false) lt g) :
    FetchPost t lt g (fetcher next_ false ctx s) := by
  obtain ⟨w1, hw, hact⟩ := h.call (.markDispatched s.orc.fMark s.orc.hfMark)
  obtain ⟨ob, e, hs⟩ | ⟨ob, hs⟩ := World.sched_mark_fin hw.pc s.orc.fMark s.orc.hfMark <;>
    simp only [fetcher, GoSched.repoMarkAsDispatched, hact _ _ hs]
  · exact .fail e h.env (hw.frame.finishDE _) rfl h.glt
  · exact (get_post ctx next_.Id (h.next hw.frame)).tail

/-- what `dispatchTask` leaves behind: the automaton finished with `dispatchErr t e` / `dispatched t.id`, Go returns
`StateDispatchErr next_ e` / `StateDispatched next_.Id`; after a failure BOTH have set the restart request (D21), after a
success both have left it alone -/
inductive DispPost (t : Gk.Task) (next_ : Def.Task) (lt : Option Gk.Task) (g : Bool) : GoSched × GoStepState → Prop
  | fail {s : GoSched} (e : Err) : Regs s .idle lt true → s.w.ret = .dispatchErr t e →
      DispPost t next_ lt g (s, .dispatchErr next_ (some (goErrS e)))
  | ok {s : GoSched} : Regs s .idle lt g → s.w.ret = .dispatched t.id → DispPost t next_ lt g (s, .dispatched next_.Id)

theorem dispatch_post {t : Gk.Task} {retry : Bool} (ctx : Ctx) (next_ : Def.Task)
    (h : Regs s (.d_wait t retry) lt g) : DispPost t next_ lt g (Scheduler.dispatchTask s ctx next_ retry) := by
  obtain ⟨w1, hw, hact⟩ := h.call (.waitWorker s.orc.acquired)
  rw [dispatchTask_eq, GoSched.dispatch]
  cases hacq : s.orc.acquired with
  | false =>
    rw [hacq] at hact
    rw [hact _ _ (World.sched_wait_ctx hw.pc)]
    exact .fail .ctx ⟨h.env, hw.finishDE _, h.glt, rfl⟩ rfl
  | true =>
    rw [hacq] at hact
    rw [hact _ _ (World.sched_wait hw.pc)]
    have hp : FetchPost t lt g (fetcher next_ retry ctx
        { s with w := { w1 with pc := if retry then .d_get t else .d_mark t retry }, k := s.k + 1 }) := by
      cases retry with
      | false => exact fetch_post ctx next_ (h.next hw.frame)
      | true => exact (get_post ctx next_.Id (h.next hw.frame)).tail
    dsimp only
    generalize fetcher next_ retry ctx _ = r at hp ⊢
    cases hp with
    | fail e henv hw' hret hglt => exact .fail e ⟨henv, hw', hglt, rfl⟩ hret
    | ok hr hret => exact .ok ⟨hr.env, hr.w, hr.glt, hr.ggne⟩ hret

theorem DispPost.drove {t : Gk.Task} {r : GoSched × GoStepState} (hp : DispPost t (toGenT t) lt g r) : Drove r := by
  cases hp with
  | fail e hr hret => exact hr.drove (by rw [hret]; rfl)
  | ok hr hret => exact hr.drove (by rw [hret]; rfl)

theorem drove_stepTail {w0 : World} (ctx : Ctx) (henv : EnvOk s.orc.env) (hw0 : WRegs w0 p lt g)
    (hsw : s.w = w0.afterPrologue) (hglt : s.lastTask = lt.map toGenT) : Drove (stepTail s ctx) := by
  rcases s with ⟨w, glt, gne, orc, k, res⟩
  subst hsw hglt
  cases lt with
  | none =>
    simp only [stepTail, go_rt]
    exact drove_selTail ctx ⟨henv, hw0.afterPrologue_none, rfl, rfl⟩
  | some t =>
    simp only [stepTail, go_rt]
    exact DispPost.drove (dispatch_post ctx _ ⟨henv, hw0.afterPrologue_some, rfl, rfl⟩)

theorem drove_lastErr1 (ctx : Ctx) (h : Regs s .s_lastErr1 lt g) : Drove (lastErr1Arm s ctx) := by
  obtain ⟨w1, hw, hact⟩ := h.call .lastTimerErr
  have hs := World.sched_lastErr1 hw.pc
  rw [lastErr1Arm, GoSched.repoLastTimerUpdateError]
  cases hle : w1.obs.hook.lastErr with
  | some e =>
    rw [hle] at hs; rw [hact _ _ hs]
    exact (h.next (hw.finish _)).drove rfl
  | none =>
    rw [hle] at hs; rw [hact _ _ hs]
    exact drove_stepTail ctx h.env hw rfl h.glt

theorem drove_restart (ctx : Ctx) (h : Regs s .s_stop lt g) : Drove (restartArm s ctx) :=
  drove_lastErr1 ctx (regs_start ctx (regs_stop h))

theorem drove_lastErr0 (ctx : Ctx) (h : Regs s .s_lastErr0 lt false) : Drove (lastErr0Arm s ctx) := by
  obtain ⟨w1, hw, hact⟩ := h.call .lastTimerErr
  rw [lastErr0Arm, GoSched.repoLastTimerUpdateError, hact _ _ (World.sched_lastErr0 hw.pc)]
  cases w1.obs.hook.lastErr with
  | some e =>
    simp only [go_rt]
    exact drove_restart ctx (h.next hw.frame)
  | none =>
    simp only [go_rt]
    exact drove_stepTail ctx h.env hw rfl h.glt

theorem regs_mkSched {w : World} (orc : SchedOrc) (hidle : w.pc = .idle) (hns : w.stuck = false) (hfix : w.fix = {})
    (henv : EnvOk orc.env) : Regs (mkSched w orc) .idle w.lastTask w.getNextErr :=
  ⟨henv, ⟨hidle, hns, hfix, rfl, rfl⟩, rfl, by rw [mkSched]; cases w.getNextErr <;> rfl⟩

theorem tie_sched_Step (w : World) (orc : SchedOrc) (ctx : Ctx)
    (hidle : w.pc = .idle) (hns : w.stuck = false) (hfix : w.fix = {}) (henv : EnvOk orc.env) :
    Drove (Scheduler.Step (mkSched w orc) ctx) := by
  have h := regs_mkSched orc hidle hns hfix henv
  obtain ⟨w1, hw, hact⟩ := h.call .beginStep
  rw [Step_eq, GoSched.beginStep]
  cases hg : w.getNextErr with
  | true =>
    rw [hg] at h hw
    rw [hact _ _ (World.sched_beginStep_restart hw.pc hw.gne)]
    simp only [Go.not_isNil, h.ggne, go_rt]
    exact drove_restart ctx (h.next hw.frame)
  | false =>
    rw [hg] at h hw
    rw [hact _ _ (World.sched_beginStep hw.pc hw.gne)]
    simp only [Go.not_isNil, h.ggne, go_rt]
    exact drove_lastErr0 ctx (h.next hw.frame)

/-- what "the generated `Retry` drove the automaton correctly" means; `retryErr` is "the new state carries an error" -/
structure DroveRetry (r : GoSched × GoStepState × Bool) : Prop where
  not_stuck : r.1.w.stuck = false
  idle : r.1.w.pc = .idle
  ret : normSt r.2.1 = ssGo r.1.w.ret
  retryErr : r.2.2 = r.1.w.ret.err.isSome
  lastTask : r.1.lastTask = r.1.w.lastTask.map toGenT
  getNextErr : r.1.getNextErr.isSome = r.1.w.getNextErr

/-- the tail `if err != nil { retryErr = true }; return` of `Retry` -/
def retryRet (s : GoSched) (state : GoStepState) (err : GoError) : GoSched × GoStepState × Bool :=
  if (!(Go.isNil err)) then (s, state, true) else (s, state, (default : Bool))

/-- `Retry`, arm `TimerUpdateError`: look at the timer error after the restart -/
def retryLastErrArm (s : GoSched) : GoSched × GoStepState × Bool :=
  let (s, err) := (GoSched.repoLastTimerUpdateError s)
  if (!(Go.isNil err)) then retryRet s (StateTimerUpdateError err) err
  else retryRet s default Go.nil

/-- `Retry`, arm `TimerUpdateError` (after `beginRetry`) -/
def retryTimerArm (s : GoSched) (ctx : Ctx) : GoSched × GoStepState × Bool :=
  let s := (GoSched.repoStopTimer s)
  let s := (GoSched.repoStartTimer s ctx)
  retryLastErrArm s

/-- `Retry`, arm `DispatchErr`: the call of `dispatchTask` and the return -/
def retryDispTail (s : GoSched) (ctx : Ctx) (task fetched : Def.Task) (err : GoError) :
    GoSched × GoStepState × Bool :=
  let (s, callRes) := (Scheduler.dispatchTask s ctx task ((Go.isNil err) && (fetched.State == Def.TaskDispatched)))
  retryRet s callRes callRes.Err

/-- `Retry`, arm `DispatchErr` (after `beginRetry`) -/
def retryDispArm (s : GoSched) (ctx : Ctx) (task : Def.Task) : GoSched × GoStepState × Bool :=
  let (s, fetched, err) := (GoSched.repoGetById s ctx task.Id)
  if ((!(Go.isNil err)) && (!(Go.def_IsDefError err))) then retryRet s (StateDispatchErr task err) err
  else
    if (!(Go.isNil err)) then retryDispTail s ctx fetched fetched err
    else retryDispTail s ctx task fetched err

/-- `Retry`, arm `TaskDone` (after `beginRetry`) -/
def retryDoneArm (s : GoSched) (ctx : Ctx) (id : String) (taskErr : GoError) : GoSched × GoStepState × Bool :=
  let (s, err) := (GoSched.repoMarkAsDone s ctx id taskErr)
  if ((!(Go.isNil err)) && (!(Go.def_IsAlreadyDone err))) then retryRet s (StateTaskDone id taskErr err) err
  else retryRet s default Go.nil

theorem Retry_timer (s : GoSched) (ctx : Ctx) (e : GoError) :
    Scheduler.Retry s ctx (.timerUpdateError e) = retryTimerArm (GoSched.beginRetry s) ctx := rfl
theorem Retry_done (s : GoSched) (ctx : Ctx) (id : String) (te ue : GoError) :
    Scheduler.Retry s ctx (.taskDone id te ue) = retryDoneArm (GoSched.beginRetry s) ctx id te := rfl
theorem Retry_disp (s : GoSched) (ctx : Ctx) (task : Def.Task) (e : GoError) :
    Scheduler.Retry s ctx (.dispatchErr task e) = retryDispArm (GoSched.beginRetry s) ctx task := rfl

theorem isDefError_go (e : Err) : Go.def_IsDefError (some (goErrS e)) = World.isDefError e := by
  cases e <;> simp [Go.def_IsDefError, Go.isDefErr, goErrS, World.isDefError]

theorem alreadyDone_go (e : Option Err) :
    ((!(Go.isNil (GoSched.errOfResp (.err e)))) && (!(Go.def_IsAlreadyDone (GoSched.errOfResp (.err e))))) =
      (e.isSome && e != some .alreadyDone) := by
  cases e with
  | none => rfl
  | some e =>
    cases e <;> simp [GoSched.errOfResp, Go.isNil, Go.IsNil.isNil, Go.def_IsAlreadyDone, Go.def_IsRepositoryErr,
      Go.isRepositoryErr, goErrS]

/-- the zero task of the model is NOT Go's zero `def.Task`: the State differs -/
theorem toGenT_zeroTask : toGenT World.zeroTask = { (default : Def.Task) with State := "scheduled" } := rfl
theorem toGenT_zeroTask_ne : toGenT World.zeroTask ≠ (default : Def.Task) := by
  intro h
  have := congrArg Def.Task.State h
  simp [toGenT_zeroTask] at this
  revert this
  decide

/-- `DroveRetry` with the `ret` clause weakened by exactly the zero-task mismatch (`toGenT_zeroTask_ne`): on the
unknown-id path of the `DispatchErr` arm Go reports the failed dispatch with the zero `def.Task` (`State = ""`), the
automaton with `World.zeroTask` (`State = "scheduled"`); everything else of the two states (constructor, error class)
agrees. `w0` is the world before the call. -/
structure DroveRetryP (w0 : World) (r : GoSched × GoStepState × Bool) : Prop where
  not_stuck : r.1.w.stuck = false
  idle : r.1.w.pc = .idle
  ret : normSt r.2.1 = ssGo r.1.w.ret ∨
    ((∃ t e0, w0.ret = .dispatchErr t e0) ∧
      ∃ e, r.2.1 = .dispatchErr default (some (goErrS e)) ∧ r.1.w.ret = .dispatchErr World.zeroTask e)
  retryErr : r.2.2 = r.1.w.ret.err.isSome
  lastTask : r.1.lastTask = r.1.w.lastTask.map toGenT
  getNextErr : r.1.getNextErr.isSome = r.1.w.getNextErr

theorem DroveRetry.toP {r : GoSched × GoStepState × Bool} (w0 : World) (h : DroveRetry r) : DroveRetryP w0 r :=
  ⟨h.not_stuck, h.idle, .inl h.ret, h.retryErr, h.lastTask, h.getNextErr⟩

theorem default_stepState : (default : GoStepState) = .zero := rfl
theorem default_bool : (default : Bool) = false := rfl

theorem retryRet_eq (s : GoSched) (st : GoStepState) (e : GoError) : retryRet s st e = (s, st, e.isSome) := by
  cases e <;> rfl

theorem Regs.droveR {st : GoStepState} {b : Bool} (h : Regs s .idle lt g) (hr : normSt st = ssGo s.w.ret)
    (hb : b = s.w.ret.err.isSome) : DroveRetry (s, st, b) :=
  ⟨h.w.ns, h.w.pc, hr, hb, h.glt.trans (by rw [h.w.lt]), h.ggne.trans h.w.gne.symm⟩

theorem regs_rstop (h : Regs s .r_stop lt g) : Regs (GoSched.repoStopTimer s) .r_start lt g := by
  obtain ⟨w1, hw, hact⟩ := h.call .stopTimer
  rw [GoSched.repoStopTimer, hact _ _ (World.sched_rstop hw.pc)]
  exact h.next hw.frame

theorem regs_rstart (ctx : Ctx) (h : Regs s .r_start lt g) :
    Regs (GoSched.repoStartTimer s ctx) .r_lastErr lt g := by
  obtain ⟨w1, hw, hact⟩ := h.call (.startTimer s.orc.hookFault)
  rw [GoSched.repoStartTimer, hact _ _ (World.sched_rstart hw.pc _)]
  exact h.next hw.frame

theorem droveR_lastErr (h : Regs s .r_lastErr lt g) : DroveRetry (retryLastErrArm s) := by
  obtain ⟨w1, hw, hact⟩ := h.call .lastTimerErr
  have hs := World.sched_rlastErr hw.pc
  rw [retryLastErrArm, GoSched.repoLastTimerUpdateError]
  cases hle : w1.obs.hook.lastErr <;> rw [hle] at hs <;> rw [hact _ _ hs] <;> simp only [go_rt, retryRet_eq] <;>
    exact (h.next (hw.finish _)).droveR rfl rfl

theorem droveR_timer (ctx : Ctx) (h : Regs s .r_stop lt g) : DroveRetry (retryTimerArm s ctx) :=
  droveR_lastErr (regs_rstart ctx (regs_rstop h))

theorem droveR_done {id : String} {o : Outcome} (ctx : Ctx) (h : Regs s (.r_markDone id o) lt g) :
    DroveRetry (retryDoneArm s ctx id (GoSched.outcomeGo o)) := by
  obtain ⟨w1, hw, hact⟩ := h.call (.markDone s.orc.fMarkDone)
  obtain ⟨ob, e, hs⟩ := World.sched_rmarkDone_fin hw.pc s.orc.fMarkDone
  by_cases hc : (e.isSome && e != some .alreadyDone) = true
  · rw [if_pos hc] at hs
    simp only [retryDoneArm, GoSched.repoMarkAsDone, hact _ _ hs, alreadyDone_go, hc, retryRet_eq, go_rt]
    exact (h.next (hw.frame.finish _)).droveR (by cases e <;> rfl) (by cases e <;> rfl)
  · rw [if_neg hc] at hs
    simp only [retryDoneArm, GoSched.repoMarkAsDone, hact _ _ hs, alreadyDone_go, hc, retryRet_eq, go_rt]
    exact (h.next (hw.frame.finish _)).droveR rfl rfl

/-- the return of the `DispatchErr` arm after `dispatchTask`, known task -/
theorem DispPost.droveR {t : Gk.Task} {r : GoSched × GoStepState} (hp : DispPost t (toGenT t) lt g r) :
    DroveRetry (r.1, r.2, r.2.Err.isSome) := by
  cases hp with
  | fail e hr hret => exact hr.droveR (by rw [hret]; rfl) (by rw [hret]; rfl)
  | ok hr hret => exact hr.droveR (by rw [hret]; rfl) (by rw [hret]; rfl)

theorem droveR_disp {t : Gk.Task} (w0 : World) (ctx : Ctx)
    (hd : ∃ t e0, w0.ret = .dispatchErr t e0) (h : Regs s (.r_getById t) lt g) :
    DroveRetryP w0 (retryDispArm s ctx (toGenT t)) := by
  obtain ⟨w1, hw, hact⟩ := h.call (.getById s.orc.fGet)
  obtain ⟨e, hde, hs⟩ | hs | ⟨cur, hs⟩ := World.sched_rget_fin hw.pc hw.fix s.orc.fGet
  · simp only [retryDispArm, GoSched.repoGetById, hact _ _ hs, go_rt, isDefError_go, hde, retryRet_eq]
    exact ((h.next (hw.finish _)).droveR rfl rfl).toP w0
  · simp only [retryDispArm, retryDispTail, GoSched.repoGetById, hact _ _ hs, go_rt, isDefError_go,
      World.isDefError, retryRet_eq]
    have hp := dispatch_post ctx default (h.next (hw.goto (.d_wait World.zeroTask false)))
    generalize Scheduler.dispatchTask _ ctx default false = r at hp ⊢
    cases hp with
    | fail e hr hret =>
      exact ⟨hr.w.ns, hr.w.pc, .inr ⟨hd, e, rfl, hret⟩, by rw [hret]; rfl, hr.glt.trans (by rw [hr.w.lt]),
        hr.ggne.trans hr.w.gne.symm⟩
    | ok hr hret => exact (hr.droveR (by rw [hret]; rfl) (by rw [hret]; rfl)).toP w0
  · simp only [retryDispArm, retryDispTail, GoSched.repoGetById, hact _ _ hs, go_rt, toGenT, name_beq, retryRet_eq]
    exact (dispatch_post ctx (toGenT t) (h.next hw.frame)).droveR.toP w0

theorem tie_sched_Retry_partial (w : World) (orc : SchedOrc) (ctx : Ctx) (prev : GoStepState)
    (hidle : w.pc = .idle) (hns : w.stuck = false) (hfix : w.fix = {}) (henv : EnvOk orc.env)
    (hprev : normSt prev = ssGo w.ret) (hnz : w.ret ≠ .zero)
    (_hlt : (mkSched w orc).lastTask = w.lastTask.map toGenT) :
    DroveRetryP w (Scheduler.Retry (mkSched w orc) ctx prev) := by
  have h := regs_mkSched orc hidle hns hfix henv
  obtain ⟨w1, hw, hret, hact⟩ := h.call_ret .beginRetry
  -- `Retry` does not look at what `normSt` forgets
  have hn : Scheduler.Retry (mkSched w orc) ctx prev = Scheduler.Retry (mkSched w orc) ctx (normSt prev) := by
    cases prev <;> rfl
  rw [hn, hprev]
  have hzero : (w.ret = .zero ∨ w.ret = .awaitingNext ∨ (∃ t e, w.ret = .nextTask t e) ∨ ∃ id, w.ret = .dispatched id) →
      DroveRetryP w (GoSched.beginRetry (mkSched w orc), GoStepState.zero, false) := by
    intro hr
    rw [GoSched.beginRetry, hact _ _ (World.sched_beginRetry_zero hw.pc (hret ▸ hr))]
    exact ((h.next (hw.frame.finish _)).droveR rfl rfl).toP w
  cases hr : w.ret with
  | zero => exact absurd hr hnz
  | timerUpdateError e =>
    rw [ssGo, Retry_timer, GoSched.beginRetry, hact _ _ (World.sched_beginRetry_timer hw.pc (hret.trans hr))]
    exact (droveR_timer ctx (h.next hw.frame)).toP w
  | awaitingNext => exact hzero (.inr (.inl hr))
  | nextTask o e => cases o <;> exact hzero (.inr (.inr (.inl ⟨_, _, hr⟩)))
  | dispatched id => exact hzero (.inr (.inr (.inr ⟨_, hr⟩)))
  | dispatchErr t e =>
    rw [ssGo, Retry_disp, GoSched.beginRetry, hact _ _ (World.sched_beginRetry_disp hw.pc (hret.trans hr))]
    exact droveR_disp w ctx ⟨t, e, hr⟩ (h.next hw.frame)
  | taskDone id o ue =>
    rw [ssGo, Retry_done, GoSched.beginRetry, hact _ _ (World.sched_beginRetry_done hw.pc (hret.trans hr))]
    exact (droveR_done ctx (h.next hw.frame)).toP w

/-- `DroveRetry` itself holds on every arm but `DispatchErr` -/
theorem tie_sched_Retry_of_not_dispatchErr (w : World) (orc : SchedOrc) (ctx : Ctx) (prev : GoStepState)
    (hidle : w.pc = .idle) (hns : w.stuck = false) (hfix : w.fix = {}) (henv : EnvOk orc.env)
    (hprev : normSt prev = ssGo w.ret) (hnz : w.ret ≠ .zero)
    (hlt : (mkSched w orc).lastTask = w.lastTask.map toGenT)
    (hnd : ∀ t e, w.ret ≠ .dispatchErr t e) :
    DroveRetry (Scheduler.Retry (mkSched w orc) ctx prev) := by
  have h := tie_sched_Retry_partial w orc ctx prev hidle hns hfix henv hprev hnz hlt
  refine ⟨h.not_stuck, h.idle, ?_, h.retryErr, h.lastTask, h.getNextErr⟩
  rcases h.ret with h | ⟨⟨t, e, h⟩, -⟩
  · exact h
  · exact absurd h (hnd t e)

/-- the normalisation that makes the `ret` clause true on every path: forget the `State` of the task a `DispatchErr`
carries (comparing these tasks by `Id` only is weaker and also true) -/
def blankSt : GoStepState → GoStepState
  | .dispatchErr t e => .dispatchErr { t with State := "" } e
  | s => s

theorem tie_sched_Retry_modState (w : World) (orc : SchedOrc) (ctx : Ctx) (prev : GoStepState)
    (hidle : w.pc = .idle) (hns : w.stuck = false) (hfix : w.fix = {}) (henv : EnvOk orc.env)
    (hprev : normSt prev = ssGo w.ret) (hnz : w.ret ≠ .zero)
    (hlt : (mkSched w orc).lastTask = w.lastTask.map toGenT) :
    blankSt (normSt (Scheduler.Retry (mkSched w orc) ctx prev).2.1) =
      blankSt (ssGo (Scheduler.Retry (mkSched w orc) ctx prev).1.w.ret) := by
  have h := tie_sched_Retry_partial w orc ctx prev hidle hns hfix henv hprev hnz hlt
  rcases h.ret with h | ⟨-, e, h1, h2⟩
  · rw [h]
  · rw [h1, h2]; rfl

def dispErrState : GoStepState → String
  | .dispatchErr t _ => t.State
  | _ => "?"

/-- `DroveRetry` fails in general: the last failed dispatch was of a task deleted since, and no worker is free -/
theorem tie_sched_Retry_false : ¬ ∀ (w : World) (orc : SchedOrc) (ctx : Ctx) (prev : GoStepState),
    w.pc = .idle → w.stuck = false → w.fix = {} → EnvOk orc.env → normSt prev = ssGo w.ret → w.ret ≠ .zero →
    (mkSched w orc).lastTask = w.lastTask.map toGenT →
    DroveRetry (Scheduler.Retry (mkSched w orc) ctx prev) := by
  intro H
  have h := H { ret := .dispatchErr World.zeroTask .ctx } { acquired := false } none
    (ssGo (.dispatchErr World.zeroTask .ctx)) rfl rfl rfl
    (fun _ _ => ⟨rfl, rfl, rfl, rfl, rfl, rfl⟩) rfl (by simp) rfl
  have h' := congrArg dispErrState h.ret
  revert h'
  decide

end Gk.Tie
