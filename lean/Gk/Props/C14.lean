/-
C14 — Save / Load of the in-memory repository: a restored repository is indistinguishable from the
original (same tasks, same listing order, same GetNext order including ties).
-/
import Gk.Proofs.Mem
import Gk.Props.C02

namespace Gk

/-- `Load` of valid tasks with distinct ids succeeds and yields a state satisfying the invariant whose
tasks are exactly the loaded list, in order: only the scheduled tasks are on the heap, the `Index`
fields are fresh and correct (`Inv.idx_ok`), the array is a heap (`Inv.is_heap`), and the insertion
ranks are `1 … n` in list order. The previous state `m` is irrelevant. -/
theorem C14_load_inv (kv : List Task) (m : Mem) (hv : ∀ t ∈ kv, t.isValid = true)
    (nd : (kv.map (·.id)).Nodup) :
    (Mem.load kv m).2 = .ok ∧ (Mem.load kv m).1.Inv ∧ (Mem.load kv m).1.tasks = kv ∧
    (∀ id, id ∈ (Mem.load kv m).1.heap.arr.toList ↔ ∃ t ∈ kv, t.id = id ∧ t.state = .scheduled) ∧
    (Mem.load kv m).1.counter = kv.length ∧
    (∀ (i : Nat) (hi : i < kv.length), (Mem.load kv m).1.rank kv[i].id = i + 1) ∧
    (Mem.load kv m).1 = (Mem.load kv {}).1 := by
  obtain ⟨h1, h2, h3⟩ := Mem.load_inv kv m hv nd
  refine ⟨h1, h2, h3, ?_, ?_, ?_, ?_⟩
  · intro id
    rw [h2.heap_mem id, h3]
  · rw [Mem.load_valid kv m hv]
    exact (Mem.foldl_appendTask_counter kv {}).trans (Nat.zero_add _)
  · intro i hi
    rw [Mem.load_valid kv m hv]
    exact (Mem.foldl_appendTask_rank kv {} nd i hi).trans
      (by rw [show ({} : Mem).counter = 0 from rfl, Nat.zero_add])
  · rw [Mem.load_valid kv m hv, Mem.load_valid kv {} hv]

/-- `Load` with an invalid task changes nothing and reports `invalidTask`. -/
theorem C14_load_invalid_noop (kv : List Task) (m : Mem) (hv : ∃ t ∈ kv, t.isValid = false) :
    Mem.load kv m = (m, .err .invalidTask) :=
  Mem.load_invalid kv m hv

/-- `Load ∘ Save` restores the same abstract state (the same tasks in the same order), and the
restored repository satisfies the invariant. -/
theorem C14_roundtrip {m : Mem} (inv : m.Inv) (hv : ∀ t ∈ m.tasks, t.isValid = true) (m0 : Mem) :
    (Mem.load m.save m0).2 = .ok ∧ (Mem.load m.save m0).1.abs = m.abs ∧
    (Mem.load m.save m0).1.Inv :=
  have ⟨h1, h2, h3⟩ := Mem.load_inv m.save m0 hv inv.ids_nodup
  ⟨h1, congrArg Repo.mk h3, h2⟩

/-- Two repositories satisfying the invariant and storing the same tasks (in the same order) are
observationally equivalent: every history (fresh ids) produces the same outputs from both —
including every `GetNext` and every listing — and ends with the same stored tasks. -/
theorem C14_bisim (fl : Flags) {m1 m2 : Mem} (i1 : m1.Inv) (i2 : m2.Inv) (e : m1.tasks = m2.tasks)
    (h : List (Time × Op)) (hf : Mem.Fresh fl m1 h) :
    Mem.outs fl m1 h = Mem.outs fl m2 h ∧ (Mem.run fl m1 h).tasks = (Mem.run fl m2 h).tasks ∧
    Mem.Fresh fl m2 h := by
  induction h generalizing m1 m2 with
  | nil => exact ⟨rfl, e, trivial⟩
  | cons x rest ih =>
    obtain ⟨now, op⟩ := x
    obtain ⟨hop, hfr, hrest⟩ := hf
    have eabs : m1.abs = m2.abs := by unfold Mem.abs; rw [e]
    have hfr2 : Mem.FreshOp m2 op := by
      cases op <;> first | trivial | (simp only [Mem.FreshOp] at hfr ⊢; rw [← e]; exact hfr)
    have r1 := Mem.refines fl i1 now op hop
    have r2 := Mem.refines fl i2 now op hop
    have eout : (Mem.step fl m1 now op).2 = (Mem.step fl m2 now op).2 := by
      rw [r1.1, r2.1, eabs]
    have etasks : (Mem.step fl m1 now op).1.tasks = (Mem.step fl m2 now op).1.tasks := by
      have : (Mem.step fl m1 now op).1.abs = (Mem.step fl m2 now op).1.abs := by
        rw [r1.2, r2.2, eabs]
      exact congrArg Repo.tasks this
    obtain ⟨o, t, f⟩ := ih (Mem.step_inv fl i1 now op hfr) (Mem.step_inv fl i2 now op hfr2) etasks hrest
    refine ⟨?_, t, hop, hfr2, f⟩
    simp only [Mem.outs]
    rw [eout, o]

/-- Hence the original and the restored repository are indistinguishable. -/
theorem C14_restore_indistinguishable (fl : Flags) {m : Mem} (inv : m.Inv)
    (hv : ∀ t ∈ m.tasks, t.isValid = true) (m0 : Mem) (h : List (Time × Op))
    (hf : Mem.Fresh fl m h) :
    Mem.outs fl (Mem.load m.save m0).1 h = Mem.outs fl m h ∧
    (Mem.run fl (Mem.load m.save m0).1 h).tasks = (Mem.run fl m h).tasks := by
  obtain ⟨-, h2, h3⟩ := C14_roundtrip inv hv m0
  have e : m.tasks = (Mem.load m.save m0).1.tasks := (congrArg Repo.tasks h2).symm
  obtain ⟨o, t, -⟩ := C14_bisim fl inv h3 e h hf
  exact ⟨o.symm, t.symm⟩

namespace C14ex
def ta : Task := C02ex.pa.normalize.toTask "a" 5000000
def tb : Task := { C02ex.pb.normalize.toTask "b" 6000000 with
  state := .cancelled, cancelledAt := some 7000000 }
def kv : List Task := [ta, tb]
def bad : Task := { ta with workId := "" }
end C14ex

-- the hypotheses of `C14_load_inv` are satisfiable, with a scheduled and an unscheduled task
example : (Mem.load C14ex.kv {}).1.Inv ∧ (Mem.load C14ex.kv {}).1.tasks = C14ex.kv :=
  have h := C14_load_inv C14ex.kv {} (by decide) (by decide)
  ⟨h.2.1, h.2.2.1⟩
example : "a" ∈ (Mem.load C14ex.kv {}).1.heap.arr.toList ∧
    "b" ∉ (Mem.load C14ex.kv {}).1.heap.arr.toList := by
  have h := (C14_load_inv C14ex.kv {} (by decide) (by decide)).2.2.2.1
  constructor
  · rw [h]; exact ⟨C14ex.ta, by decide, rfl, rfl⟩
  · rw [h]; decide
example : Mem.load [C14ex.ta, C14ex.bad] (Mem.run {} {} C02ex.hist) =
    (Mem.run {} {} C02ex.hist, .err .invalidTask) :=
  C14_load_invalid_noop _ _ ⟨C14ex.bad, by decide, by decide⟩

-- the hypotheses of `C14_roundtrip` / `C14_restore_indistinguishable` are satisfiable by a non-empty
-- repository, and a fresh continuation exists
example : (Mem.run {} {} C02ex.hist).Inv ∧ (∀ t ∈ (Mem.run {} {} C02ex.hist).tasks, t.isValid = true) ∧
    (Mem.run {} {} C02ex.hist).tasks.length = 2 ∧
    Mem.Fresh {} (Mem.run {} {} C02ex.hist) [(9000000, .next), (9000000, .cancel "b"), (9000000, .next)] :=
  ⟨Mem.run_inv {} Mem.inv_empty _ C02ex.fresh, by decide +kernel, by decide +kernel,
    ⟨rfl, trivial, rfl, trivial, rfl, trivial, trivial⟩⟩

end Gk
