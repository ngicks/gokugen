/-
C04 — a task's work function is started at most once, only after this run marked the task as
dispatched, and never after the task was cancelled or finished.

All theorems quantify over every `Script`: arbitrary interleavings of user mutations with the
scheduler's calls, time advances, completions, Step / Retry in any order, faults on every repository
call, hook faults, context cancellation, busy workers. This is `World.Script` of Proofs/World.lean (users
may add / update / cancel and start / stop the timer; no premise on the driver), not the `Live.World.Script`
of the liveness files.
-/
import Gk.Proofs.World
namespace Gk
open World WP

/-- At most one work-function start per task id. -/
theorem C04_at_most_once (t0 : Time) (acts : List Act) (hs : (init t0).Script acts) :
    (((init t0).run acts).log.map (·.id)).Nodup :=
  (Inv_run (Inv_init t0) hs).nodup

/-- the boolean monitor of `Gk.World` agrees -/
theorem C04_atMostOnce (t0 : Time) (acts : List Act) (hs : (init t0).Script acts) :
    ((init t0).run acts).atMostOnce = true := by
  unfold World.atMostOnce
  rw [eraseDups_of_nodup _ (C04_at_most_once t0 acts hs)]
  simp

/-- The record handed to the work function is the stored task, in state `dispatched`. -/
theorem C04_dispatched_at_entry (t0 : Time) (acts : List Act) (hs : (init t0).Script acts) :
    ∀ e ∈ ((init t0).run acts).log, e.task.state = .dispatched ∧ e.task.id = e.id := fun e he =>
  let h := (Inv_run (Inv_init t0) hs).logged e he
  ⟨h.1, h.2.1⟩

theorem C04_dispatchedAtEntry (t0 : Time) (acts : List Act) (hs : (init t0).Script acts) :
    ((init t0).run acts).dispatchedAtEntry = true :=
  List.all_eq_true.mpr fun e he => beq_iff_eq.mpr (C04_dispatched_at_entry t0 acts hs e he).1

/-- A task whose work function was started is stored as dispatched, done or err — in particular it is
not (and, these states being closed under every operation, never again) scheduled or cancelled. -/
theorem C04_logged_are_dispatched_or_finished (t0 : Time) (acts : List Act)
    (hs : (init t0).Script acts) :
    ∀ e ∈ ((init t0).run acts).log, ∃ t, ((init t0).run acts).obs.repo.lookup e.id = some t ∧
      (t.state = .dispatched ∨ t.state = .done ∨ t.state = .err) := fun e he =>
  (Inv_run (Inv_init t0) hs).logged e he |>.2.2

/-- Once a task is cancelled, done or err (after the prefix `pre`), it stays exactly as it is and no
extension `post` of the script starts its work function (again): every log entry for `id` after
`pre ++ post` was already there after `pre`. -/
theorem C04_no_start_after_terminal (t0 : Time) (pre post : List Act)
    (hs : (init t0).Script (pre ++ post)) (id : String) (t : Task)
    (hl : ((init t0).run pre).obs.repo.lookup id = some t)
    (ht : t.state = .cancelled ∨ t.state = .done ∨ t.state = .err) :
    ((init t0).run (pre ++ post)).obs.repo.lookup id = some t ∧
    ∀ e ∈ ((init t0).run (pre ++ post)).log, e.id = id → e ∈ ((init t0).run pre).log := by
  rw [World.script_append] at hs
  rw [World.run_append]
  exact terminal_run (Inv_run (Inv_init t0) hs.1) hs.2 hl ht

/-- A task whose cancellation succeeded is never started, whatever happens afterwards. -/
theorem C04_not_after_cancel (t0 : Time) (pre post : List Act)
    (hs : (init t0).Script (pre ++ post)) (id : String) (t : Task)
    (hl : ((init t0).run pre).obs.repo.lookup id = some t) (ht : t.state = .cancelled) :
    id ∉ ((init t0).run (pre ++ post)).log.map (·.id) := by
  intro hin
  obtain ⟨e, he, hid⟩ := List.mem_map.mp hin
  obtain ⟨t', ht', hst⟩ := C04_logged_are_dispatched_or_finished t0 _ hs e he
  rw [hid, (C04_no_start_after_terminal t0 pre post hs id t hl (.inl ht)).1] at ht'
  cases ht'
  rw [ht] at hst
  simp at hst

/-- A task that is done / err and whose work function has not been started by this run is never
started; one that has been started is not started a second time. -/
theorem C04_not_after_finish (t0 : Time) (pre post : List Act)
    (hs : (init t0).Script (pre ++ post)) (id : String) (t : Task)
    (hl : ((init t0).run pre).obs.repo.lookup id = some t) (ht : t.state = .done ∨ t.state = .err) :
    (((init t0).run (pre ++ post)).log.filter (·.id == id)).length ≤ 1 ∧
    (id ∉ ((init t0).run pre).log.map (·.id) → id ∉ ((init t0).run (pre ++ post)).log.map (·.id)) := by
  constructor
  · have := List.nodup_iff_count.mp (C04_at_most_once t0 _ hs) id
    rwa [List.count, List.countP_map, List.countP_eq_length_filter] at this
  · intro hnot hin
    obtain ⟨e, he, hid⟩ := List.mem_map.mp hin
    have h := (C04_no_start_after_terminal t0 pre post hs id t hl (.inr ht)).2 e he hid
    exact hnot (List.mem_map.mpr ⟨e, h, hid⟩)

/-- Every started task was marked as dispatched by the scheduler earlier in the same run. -/
theorem C04_marked_by_this_run (t0 : Time) (acts : List Act) (hs : (init t0).Script acts) :
    ∀ e ∈ ((init t0).run acts).log, e.id ∈ marksOf (init t0) acts :=
  (GInv_run hs (GInv_init t0)).logged (Inv_run (Inv_init t0) hs)

/-- The step that starts a work function is the `GetById` of `dispatchTask` (`pc = d_get t`, no fault);
at that moment the task is stored in state dispatched, its id is not in the log, and a
`MarkAsDispatched` of that id by the scheduler took effect strictly earlier in this run. -/
theorem C04_marked_before_start (t0 : Time) (pre : List Act) (a : Act)
    (hs : (init t0).Script (pre ++ [a])) (e : RunEntry)
    (hnew : e ∈ ((init t0).run (pre ++ [a])).log) (hold : e ∉ ((init t0).run pre).log) :
    a = .sched (.getById .none) ∧
    (∃ t, ((init t0).run pre).pc = .d_get t ∧ t.id = e.id) ∧
    ((init t0).run pre).obs.repo.lookup e.id = some e.task ∧ e.task.state = .dispatched ∧
    e.id ∉ ((init t0).run pre).log.map (·.id) ∧
    e.id ∈ marksOf (init t0) pre := by
  rw [World.script_append] at hs
  rw [World.run_append] at hnew
  obtain ⟨ha, hpc, hl, hd, hlog⟩ := start_step (Inv_run (Inv_init t0) hs.1) hnew hold
  exact ⟨ha, hpc, hl, hd, hlog, GInv_run hs.1 (GInv_init t0) e.id e.task hl (.inl hd)⟩

namespace C04

def t0 : Time := 63808128000000000000
def sec : Time := 1000000000

def pT : Param := { workId := some "w", scheduledAt := some (t0 + 10 * sec) }

/-- start the timer, add `t` (due at 10 s), advance to 40 s, Step announces `t` -/
def announce : List Act :=
  [ .user .start none, .user (.add "t" pT) none, .advance (t0 + 40 * sec),
    .sched .beginStep, .sched .lastTimerErr, .sched .selTimer, .sched (.getNext .none),
    .sched .nextScheduled ]

/-- the next Step dispatches it -/
def dispatch : List Act :=
  [ .sched .beginStep, .sched .lastTimerErr, .sched (.waitWorker true),
    .sched (.markDispatched .none none), .sched (.getById .none) ]

/-- … or fails because no worker is free (`DispatchErr ctx`), the user cancels the task, then `Retry` -/
def cancelThenRetry : List Act :=
  [ .sched .beginStep, .sched .lastTimerErr, .sched (.waitWorker false),
    .user (.cancel "t") none,
    .sched .beginRetry, .sched (.getById .none), .sched (.waitWorker true),
    .sched (.markDispatched .none none), .sched (.getById .none) ]

/-- the same `Retry` path without the cancellation but with the first attempt failing *after* its
`MarkAsDispatched` took effect: `Retry` must not mark again and must start the work function -/
def faultThenRetry : List Act :=
  [ .sched .beginStep, .sched .lastTimerErr, .sched (.waitWorker true),
    .sched (.markDispatched .after none),
    .sched .beginRetry, .sched (.getById .none), .sched (.waitWorker true), .sched (.getById .none) ]

end C04

/-- Non-vacuity: a script satisfying `Script` that starts a work function (normal path). -/
example : (init C04.t0).Script (C04.announce ++ C04.dispatch) ∧
    (((init C04.t0).run (C04.announce ++ C04.dispatch)).log.map (fun e => (e.id, e.task.state)))
      = [("t", .dispatched)] ∧
    marksOf (init C04.t0) (C04.announce ++ C04.dispatch) = ["t"] := by
  decide

/-- Non-vacuity (fault + Retry path): the first attempt's `MarkAsDispatched` fails after taking
effect, `Retry` skips marking and starts the work function exactly once. -/
example : (init C04.t0).Script (C04.announce ++ C04.faultThenRetry) ∧
    (((init C04.t0).run (C04.announce ++ C04.faultThenRetry)).log.map (fun e => (e.id, e.task.state)))
      = [("t", .dispatched)] ∧
    marksOf (init C04.t0) (C04.announce ++ C04.faultThenRetry) = ["t"] := by
  decide

/-- With the repaired `Retry` a cancellation between the failed dispatch and its `Retry` wins:
`MarkAsDispatched` refuses, nothing is started. -/
example : (init C04.t0).Script (C04.announce ++ C04.cancelThenRetry) ∧
    ((init C04.t0).run (C04.announce ++ C04.cancelThenRetry)).log = [] ∧
    ((init C04.t0).run (C04.announce ++ C04.cancelThenRetry)).ret.err = some .alreadyCancelled := by
  decide

/-- the original `Retry` (D4): `isRetry = true` always, i.e. `MarkAsDispatched` is skipped -/
def C04.d4Init : World := { init C04.t0 with fix := { retryMarks := false } }

/-- the `Retry` of the original code performs no `MarkAsDispatched` call at all -/
def C04.cancelThenRetryOrig : List Act :=
  [ .sched .beginStep, .sched .lastTimerErr, .sched (.waitWorker false),
    .user (.cancel "t") none,
    .sched .beginRetry, .sched (.getById .none), .sched (.waitWorker true), .sched (.getById .none) ]

/-- D4 witness: on the original `Retry` (everything else repaired) the work function of a task whose
cancellation succeeded is started, with a record in state `cancelled`; and without the cancellation
the work function is started while the task is still `scheduled` (never marked as dispatched). -/
theorem C04_D4_witness :
    C04.d4Init.Script (C04.announce ++ C04.cancelThenRetryOrig) ∧
    ((C04.d4Init.run (C04.announce ++ C04.cancelThenRetryOrig)).log.map
        (fun e => (e.id, e.task.state))) = [("t", .cancelled)] ∧
    (C04.d4Init.run (C04.announce ++ C04.cancelThenRetryOrig)).dispatchedAtEntry = false ∧
    ((C04.d4Init.run (C04.announce ++ C04.cancelThenRetryOrig)).obs.repo.lookup "t").map (·.state)
      = some .cancelled ∧
    ((C04.d4Init.run (C04.announce ++
        [ .sched .beginStep, .sched .lastTimerErr, .sched (.waitWorker false),
          .sched .beginRetry, .sched (.getById .none), .sched (.waitWorker true),
          .sched (.getById .none) ])).log.map (fun e => (e.id, e.task.state))) = [("t", .scheduled)] := by
  decide

end Gk
