/-
C10 — linearizability.
The checker `Lin.linearizable` decides exactly the textbook definition (soundness + completeness),
a system of atomic critical sections only produces linearizable histories, and the lifecycle rules
make conflicting transitions on one task mutually exclusive in every linearizable history.
-/
import Gk.Proofs.Lin
import Gk.Proofs.Repo
namespace Gk
open Gk.Lin

/-- The checker only accepts histories that have a sequential explanation: an order of the same
operations that respects real time and on which the specification returns the observed results. -/
theorem Lin_sound {same : Op → Out → Out → Bool} {r : Repo} {ops : List LOp} :
    linearizable same r ops = true →
      ∃ σ : List LOp, σ.Perm ops ∧ respectsRealTime σ = true ∧ replays same r σ = true :=
  search_sound ops.length r ops

/-- Every history with a sequential explanation is accepted. -/
theorem Lin_complete {same : Op → Out → Out → Bool} {r : Repo} {ops : List LOp} :
    (∃ σ : List LOp, σ.Perm ops ∧ respectsRealTime σ = true ∧ replays same r σ = true) →
      linearizable same r ops = true := by
  rintro ⟨σ, hp, hrt, hrep⟩
  unfold linearizable
  rw [← hp.length_eq]
  exact search_complete σ r ops hp hrt hrep

theorem Lin_iff {same : Op → Out → Out → Bool} {r : Repo} {ops : List LOp} :
    linearizable same r ops = true ↔
      ∃ σ : List LOp, σ.Perm ops ∧ respectsRealTime σ = true ∧ replays same r σ = true :=
  ⟨Lin_sound, Lin_complete⟩

/-- `respectsRealTime` is the informal definition: an operation that returned before another was
called comes first (no later element of the order returned before an earlier one was called). -/
theorem Lin_respectsRealTime_spec {σ : List LOp} :
    respectsRealTime σ = true ↔
      ∀ (i j : Nat) (_ : i < σ.length) (_ : j < σ.length), i < j → ¬ σ[j].ret < σ[i].call :=
  respectsRealTime_iff_getElem

/-- The verdict does not depend on the order in which the history was recorded. -/
theorem Lin_perm_invariant {same : Op → Out → Out → Bool} {r : Repo} {ops ops' : List LOp}
    (hp : ops.Perm ops') : linearizable same r ops = linearizable same r ops' := by
  rw [Bool.eq_iff_iff, Lin_iff, Lin_iff]
  exact ⟨fun ⟨σ, h, h'⟩ => ⟨σ, h.trans hp, h'⟩, fun ⟨σ, h, h'⟩ => ⟨σ, h.trans hp.symm, h'⟩⟩

/-- (b) ⇒ real time is respected: if the critical sections ran in the order of `σ`, each inside the
interval of its operation, then no later element of `σ` returned before an earlier one was called. -/
theorem C10_sections_respect_real_time {σ : List LOp} (h : AtomicSections σ) :
    respectsRealTime σ = true :=
  h.respectsRealTime

/-- `C10_atomic_sections` for any comparison `same` of results. -/
theorem C10_atomic_sections_gen {same : Op → Out → Out → Bool} {r : Repo} {σ ops : List LOp}
    (hrep : replays same r σ = true) (hsec : AtomicSections σ) (hp : ops.Perm σ) :
    linearizable same r ops = true :=
  Lin_complete ⟨σ, hp.symm, hsec.respectsRealTime, hrep⟩

/-- A system in which every operation is one `Repo.step` executed atomically at some instant
between its call and its return produces only linearizable histories.
`σ` = the completed operations in the order their critical sections ran;
(a) `replays sameExact r σ`: each result is what the specification returns at that point;
(b) `AtomicSections σ`: `∃ τ : Nat → Nat`, strictly increasing on the indices of `σ`, with
    `σ[k].call ≤ τ k ≤ σ[k].ret`;
`ops` = the history as recorded, in any order. -/
theorem C10_atomic_sections {r : Repo} {σ ops : List LOp}
    (hrep : replays sameExact r σ = true) (hsec : AtomicSections σ) (hp : ops.Perm σ) :
    linearizable sameExact r ops = true :=
  C10_atomic_sections_gen hrep hsec hp

/-- The same with the instants as a strictly increasing list zipped with the operations. -/
theorem C10_atomic_sections_list {r : Repo} {σ ops : List LOp} {instants : List Nat}
    (hrep : replays sameExact r σ = true) (hsec : AtomicSectionsL σ instants) (hp : ops.Perm σ) :
    linearizable sameExact r ops = true :=
  C10_atomic_sections hrep hsec.toFun hp

/-- The atomic system itself: executing requests one `Repo.step` at a time (`runAtomic`) at strictly
increasing instants inside the requests' intervals yields a linearizable history, however the
completed operations are listed. -/
theorem C10_runAtomic_linearizable {r : Repo} {qs : List Req} {ops : List LOp} (τ : Nat → Nat)
    (hmono : ∀ i j, i < j → j < qs.length → τ i < τ j)
    (hin : ∀ (k : Nat) (h : k < qs.length), qs[k].call ≤ τ k ∧ τ k ≤ qs[k].ret)
    (hp : ops.Perm (runAtomic r qs)) : linearizable sameExact r ops = true := by
  refine C10_atomic_sections (replays_runAtomic r qs) ⟨τ, ?_, ?_⟩ hp
  · intro i j hij hj
    exact hmono i j hij (length_runAtomic r qs ▸ hj)
  · intro k hk
    have hk' : k < qs.length := length_runAtomic r qs ▸ hk
    obtain ⟨h1, h2⟩ := getElem_runAtomic_call_ret r qs k hk hk'
    rw [h1, h2]
    exact hin k hk'

/-- a guarded write that finds its row in the state it asks for reports success and leaves the edited row -/
private theorem hit {r : Repo} (h : r.WF) {id : String} {t : Task} (hl : r.lookup id = some t) {now : Time}
    {op : Op} {want : St} {f : Task → Task} (he : Edit now op id want f) (hs : t.state = want) :
    (Repo.step {} r now op).2 = .ok ∧ (Repo.step {} r now op).1.WF ∧
      (Repo.step {} r now op).1.lookup id = some (f t) :=
  ⟨by rw [he.step_hit {} hl hs], step_wf h (by cases he <;> trivial), he.lookup_hit {} hl hs⟩

private theorem refused {r : Repo} {id : String} {e : Err}
    (he : ∀ f, r.mutateScheduled id f = (r, .err e)) (now : Time) :
    (Repo.step {} r now (.dispatch id)).2 = .err e ∧
    (Repo.step {} r now (.cancel id)).2 = .err e ∧
    (∀ p, p.validForUpdate = true → (Repo.step {} r now (.update id p)).2 = .err e) := by
  refine ⟨?_, ?_, ?_⟩
  · simp only [Repo.step, he]
  · simp only [Repo.step, he]
  · intro p hp
    simp only [Repo.step, hp, Bool.not_true, Bool.false_eq_true, if_false, he]

/-- Of two conflicting transitions on one scheduled task at most one returns ok: after a successful
`cancel`, `dispatch` / `cancel` / `update` (with a valid parameter) are refused with
`alreadyCancelled`; after a successful `dispatch` they are refused with `alreadyDispatched`. -/
theorem C10_conflict {r : Repo} (h : r.WF) {id : String} {t : Task}
    (hl : r.lookup id = some t) (hs : t.state = .scheduled) (now : Time) :
    ((Repo.step {} r now (.cancel id)).2 = .ok ∧
      ∀ now', let r' := (Repo.step {} r now (.cancel id)).1
        (Repo.step {} r' now' (.dispatch id)).2 = .err .alreadyCancelled ∧
        (Repo.step {} r' now' (.cancel id)).2 = .err .alreadyCancelled ∧
        (∀ p, p.validForUpdate = true →
          (Repo.step {} r' now' (.update id p)).2 = .err .alreadyCancelled)) ∧
    ((Repo.step {} r now (.dispatch id)).2 = .ok ∧
      ∀ now', let r' := (Repo.step {} r now (.dispatch id)).1
        (Repo.step {} r' now' (.dispatch id)).2 = .err .alreadyDispatched ∧
        (Repo.step {} r' now' (.cancel id)).2 = .err .alreadyDispatched ∧
        (∀ p, p.validForUpdate = true →
          (Repo.step {} r' now' (.update id p)).2 = .err .alreadyDispatched)) := by
  constructor
  · obtain ⟨hok, hwf, hl'⟩ := hit h hl (.cancel id) hs
    exact ⟨hok, refused fun f => by simp only [mutateScheduled_spec hwf, hl', Ent.setCancel_state]⟩
  · obtain ⟨hok, hwf, hl'⟩ := hit h hl (.dispatch id) hs
    exact ⟨hok, refused fun f => by simp only [mutateScheduled_spec hwf, hl', Ent.setDispatch_state]⟩

/-- In a linearizable history a racing `cancel` and `dispatch` of one task never both succeed
(on any well-formed repository, whatever the state of the task). -/
theorem C10_conflict_race_wf {r : Repo} (h : r.WF) {id : String} {c d : LOp}
    (hc : c.op = .cancel id) (hd : d.op = .dispatch id)
    (hlin : linearizable sameExact r [c, d] = true) : ¬ (c.out = .ok ∧ d.out = .ok) := by
  obtain ⟨σ, hp, -, hrep⟩ := Lin_sound hlin
  have hlc : ∀ o ∈ σ, Ent.lifecycle o.op = true := by
    intro o ho
    have ho := hp.mem_iff.mp ho
    simp only [List.mem_cons, List.not_mem_nil, or_false] at ho
    rcases ho with rfl | rfl
    · rw [hc]; rfl
    · rw [hd]; rfl
  have := (hp.pairwise_iff Ent.NoConflict.symm).mp (Ent.replays_no_conflict σ r (Ent.marked_of_WF h) hlc hrep)
  exact List.rel_of_pairwise_cons this List.mem_cons_self id (.inl hc) (.inr hd)

/-- C10 as worded, for a task that is scheduled in `r` (`_hl`, `_hs` are not needed). -/
theorem C10_conflict_race {r : Repo} (h : r.WF) {id : String} {t : Task}
    (_hl : r.lookup id = some t) (_hs : t.state = .scheduled) {c d : LOp}
    (hc : c.op = .cancel id) (hd : d.op = .dispatch id)
    (hlin : linearizable sameExact r [c, d] = true) : ¬ (c.out = .ok ∧ d.out = .ok) :=
  C10_conflict_race_wf h hc hd hlin

namespace ExLin

def p : Param := { workId := some "w", scheduledAt := some 5000000 }

def tA : Task :=
  { id := "a", workId := "w", priority := 0, state := .scheduled, err := "", param := [], meta_ := [],
    scheduledAt := 5000000, createdAt := 1000000, deadline := none, cancelledAt := none,
    dispatchedAt := none, doneAt := none }

def tB : Task := { tA with id := "b" }

/-- Two overlapping adds (all sort keys tied) and an overlapping Find that saw `b` before `a`:
linearizable (as `add b; add a; find`), although `add a` was called first. -/
def good : List LOp :=
  [{ call := 0, ret := 3, now := 1000000, op := .add "a" p, out := .task tA },
   { call := 1, ret := 4, now := 1000000, op := .add "b" p, out := .task tB },
   { call := 2, ret := 5, now := 1000000, op := .find {} 0 (-1), out := .tasks [tB, tA] }]

/-- The D14 pattern: the Find (after both adds) lists `[b, a]`, so `b` was inserted first and wins
the full tie, but GetNext returns `a`. -/
def bad : List LOp :=
  [{ call := 0, ret := 2, now := 1000000, op := .add "a" p, out := .task tA },
   { call := 1, ret := 3, now := 1000000, op := .add "b" p, out := .task tB },
   { call := 4, ret := 5, now := 1000000, op := .find {} 0 (-1), out := .tasks [tB, tA] },
   { call := 6, ret := 7, now := 1000000, op := .next, out := .task tA }]

/-- A cancel racing a dispatch on the scheduled task `a`, both reporting success. -/
def race : List LOp :=
  [{ call := 0, ret := 2, now := 2000000, op := .cancel "a", out := .ok },
   { call := 1, ret := 3, now := 2000000, op := .dispatch "a", out := .ok }]

/-- Requests for the atomic system, with overlapping intervals. -/
def reqs : List Req :=
  [{ call := 1, ret := 4, now := 1000000, op := .add "b" p },
   { call := 0, ret := 3, now := 1000000, op := .add "a" p },
   { call := 2, ret := 5, now := 1000000, op := .find {} 0 (-1) }]

end ExLin

theorem C10_ex_linearizable : linearizable sameExact {} ExLin.good = true := by decide
theorem C10_ex_not_linearizable : linearizable sameExact {} ExLin.bad = false := by decide
/-- with GetNext returning `b` the same history is linearizable -/
theorem C10_ex_repaired : linearizable sameExact {}
    (ExLin.bad.take 3 ++ [{ call := 6, ret := 7, now := 1000000, op := .next, out := .task ExLin.tB }])
    = true := by decide
/-- the hypotheses of `C10_conflict_race` hold of a concrete state, and its conclusion has bite:
the checker rejects the history in which both racing transitions succeeded and accepts the ones in
which exactly one did -/
theorem C10_ex_race : Repo.WF { tasks := [ExLin.tA] } ∧
    { tasks := [ExLin.tA] : Repo }.lookup "a" = some ExLin.tA ∧ ExLin.tA.state = .scheduled ∧
    linearizable sameExact { tasks := [ExLin.tA] } ExLin.race = false ∧
    linearizable sameExact { tasks := [ExLin.tA] }
      [{ call := 0, ret := 2, now := 2000000, op := .cancel "a", out := .ok },
       { call := 1, ret := 3, now := 2000000, op := .dispatch "a", out := .err .alreadyCancelled }]
      = true ∧
    linearizable sameExact { tasks := [ExLin.tA] }
      [{ call := 0, ret := 2, now := 2000000, op := .cancel "a", out := .err .alreadyDispatched },
       { call := 1, ret := 3, now := 2000000, op := .dispatch "a", out := .ok }]
      = true := by
  refine ⟨?_, by decide, rfl, by decide, by decide, by decide⟩
  unfold Repo.WF; decide
/-- the atomic system on overlapping requests, critical sections at the instants 1 < 2 < 3 -/
theorem C10_ex_atomic : AtomicSectionsL (runAtomic {} ExLin.reqs) [1, 2, 3] ∧
    (runAtomic {} ExLin.reqs).map (·.out) = [.task ExLin.tB, .task ExLin.tA, .tasks [ExLin.tB, ExLin.tA]] := by
  refine ⟨⟨rfl, by decide, ?_⟩, by decide⟩
  decide

end Gk
