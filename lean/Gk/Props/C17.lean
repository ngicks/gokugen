/-
C17 — the cron store's timer follows the head of the pending bag and honours Start/Stop (repaired
code, `Cron.fixed = true`); `NextScheduled`; and the witness of D10 in the pinned code.

The invariant `ClockInv`: a value is never both armed and waiting in the channel; a stopped or empty
store has a silent timer.
-/
import Gk.Cron
import Gk.Proofs.Cron
namespace Gk
open Cron

theorem C17_inv_init (c : Cron) (hf : c.fixed = true) (ha : c.clock.armed = none)
    (hp : c.clock.pending = false) : ClockInv c := ClockInv.init hf ha hp

theorem C17_inv_step (c : Cron) (op : COp) : ClockInv c → ClockInv (c.step op) :=
  fun h => h.step op

theorem C17_inv_run (c : Cron) (ops : List COp) : ClockInv c → ClockInv (c.run ops) :=
  fun h => h.run ops

/-- One step from any state satisfying the clock invariant: after `pop`, `editTask` or `startTimer`
on a store that is (then) started, the timer is armed exactly at the head's time and that time is
still ahead, or the fire is already waiting in the channel and the head is due; with nothing
pending the timer is silent. -/
theorem C17_armed_exact_step (c : Cron) (hI : ClockInv c) (op : COp)
    (hop : op = .pop ∨ (∃ a r, op = .edit a r) ∨ op = .start)
    (hs : (c.step op).started = true) :
    (∀ h, (c.step op).head = some h →
      ((c.step op).clock.armed = some h.task.scheduledAt ∧
          (c.step op).clock.now < h.task.scheduledAt) ∨
      ((c.step op).clock.pending = true ∧ h.task.scheduledAt ≤ (c.step op).clock.now)) ∧
    ((c.step op).head = none → (c.step op).clock.armed = none ∧ (c.step op).clock.pending = false) :=
  hI.follows op hop hs

/-- The same after every history, from any store of the repaired code whose timer is idle
(whether started or not, whatever it holds). -/
theorem C17_armed_exact (c0 : Cron) (hf : c0.fixed = true) (ha : c0.clock.armed = none)
    (hp : c0.clock.pending = false) (ops : List COp) (op : COp)
    (hop : op = .pop ∨ (∃ a r, op = .edit a r) ∨ op = .start)
    (hs : ((c0.run ops).step op).started = true) :
    TimerFollowsHead ((c0.run ops).step op) :=
  ((ClockInv.init hf ha hp).run ops).follows op hop hs

/-- Non-vacuity: `store1` (`a@3ms`, `b@2ms`) started; the pop takes `b@2ms` and pushes `b@4ms`, so
the head is `a@3ms` and the timer is armed at exactly that time. -/
example :
    let c := (CronEx.store1.step .start).step .pop
    c.started = true ∧ c.head.map (·.task.scheduledAt) = some 3000000 ∧
      c.clock.armed = some 3000000 ∧ c.clock.now < 3000000 := by decide

/-- Non-vacuity of the "fire is waiting" branch: time passes the head before the pop. -/
example :
    let c := ((CronEx.store1.step .start).step (.advance 3500000)).step .pop
    c.head.map (·.task.scheduledAt) = some 3000000 ∧ c.clock.pending = true ∧
      c.clock.armed = none := by decide

/-- Over all runs from a store with an idle timer: while the store is not started (never started, or
stopped and not started again) nothing is armed and nothing waits in the channel, so the scheduler
cannot be woken. (`started = false` initially is not needed.) -/
theorem C17_silent_when_stopped (c0 : Cron) (hf : c0.fixed = true) (ha : c0.clock.armed = none)
    (hp : c0.clock.pending = false) (ops : List COp) :
    (c0.run ops).started = false →
      (c0.run ops).clock.armed = none ∧ (c0.run ops).clock.pending = false :=
  fun hs => ((ClockInv.init hf ha hp).run ops).quiet (Or.inl hs)

/-- … and consequently a `consume` finds nothing and an `advance` fires nothing. -/
theorem C17_stopped_no_fire (c0 : Cron) (hf : c0.fixed = true) (ha : c0.clock.armed = none)
    (hp : c0.clock.pending = false) (ops : List COp) (t : Time)
    (hs : (c0.run ops).started = false) :
    (c0.run ops).clock.consume.2 = false ∧
      ((c0.run ops).step (.advance t)).clock.pending = false ∧
      ((c0.run ops).step (.advance t)).clock.armed = none := by
  have hI := (ClockInv.init hf ha hp).run ops
  have h1 := hI.quiet (Or.inl hs)
  have h2 := (hI.step (.advance t)).quiet (Or.inl hs)
  exact ⟨h1.2, h2.2, h2.1⟩

/-- The timer is never both armed and holding an undelivered fire. -/
theorem C17_clock_sane (c0 : Cron) (hf : c0.fixed = true) (ha : c0.clock.armed = none)
    (hp : c0.clock.pending = false) (ops : List COp) :
    (c0.run ops).clock.armed.isSome → (c0.run ops).clock.pending = false :=
  ((ClockInv.init hf ha hp).run ops).sane

/-- Non-vacuity: a never-started store stays silent through an accepted edit, a pop and time
passing the head; after start + stop it is silent again. -/
example :
    let c := ((CronEx.store1.step .pop).step (.advance 9000000))
    c.started = false ∧ c.pending.length = 2 ∧ c.clock.armed = none ∧ c.clock.pending = false := by
  decide
example :
    let c := ((CronEx.store1.step .start).step (.advance 9000000)).step .stop
    ((CronEx.store1.step .start).step (.advance 9000000)).clock.pending = true ∧
    c.started = false ∧ c.clock.armed = none ∧ c.clock.pending = false := by
  decide

theorem C17_next_scheduled (c : Cron) :
    (∀ h, c.head = some h → c.nextScheduled = (h.task.scheduledAt, true)) ∧
    (c.head = none → c.nextScheduled = (0, false)) ∧
    (c.nextScheduled.2 = false ↔ c.pending = []) ∧
    (c.nextScheduled = (0, false) ↔ c.pending = []) := by
  rw [← head_none_iff]
  unfold nextScheduled
  cases c.head <;> simp

example : CronEx.store1.nextScheduled = (2000000, true) ∧
    (CronEx.store0).nextScheduled = (0, false) := by decide

/-! ### D10: the pinned code arms the timer of a store that was never started -/

theorem C17_D10_witness :
    (CronEx.store0 false).started = false ∧
    ((CronEx.store0 false).editTask ["a"] []).2 = true ∧
    ((CronEx.store0 false).editTask ["a"] []).1.started = false ∧
    ((CronEx.store0 false).editTask ["a"] []).1.clock.armed = some 3000000 := by decide

/-- … and it then fires although `Start` was never called. -/
theorem C17_D10_fires :
    ((((CronEx.store0 false).editTask ["a"] []).1.step (.advance 3000000))).clock.pending = true := by
  decide

/-- The repaired code on the same history. -/
theorem C17_D10_fixed :
    ((CronEx.store0 true).editTask ["a"] []).2 = true ∧
    ((CronEx.store0 true).editTask ["a"] []).1.clock.armed = none ∧
    ((((CronEx.store0 true).editTask ["a"] []).1.step (.advance 3000000))).clock.pending = false := by
  decide

end Gk
