/-
C15 — the cron store hands out every occurrence of every stored entry exactly once, in order, and
keeps exactly one pending occurrence per stored entry (repaired code, `Cron.fixed = true`).

Hypotheses on the oracle / object store, where needed, are explicit:
* `e.occ.Pairwise (· < ·)`  — the schedule is strictly increasing (only for the log theorem);
* `oracleExhausted = false` in the reached state — the finite oracle list was long enough;
* `NamesUnique c.ents`      — only for the statements phrased with membership in `ents`
  (the lookup-phrased statements hold without it, `Cron.ent` picks the first entry of a name);
* names the client offers that do not exist make the edit rejected — no hypothesis needed.
-/
import Gk.Cron
import Gk.Proofs.Cron
namespace Gk
open Cron

/-- After every run from a store with nothing stored: the identities of the pending tasks are a
permutation of the stored identities, both duplicate-free (exactly one pending task per stored
identity and no other), and every stored identity's entry exists in the object store and has that
identity. -/
theorem C15_one_pending (c0 : Cron) (hf : c0.fixed = true) (he : c0.entries = [])
    (hp : c0.pending = []) (ops : List COp) (ho : (c0.run ops).oracleExhausted = false) :
    ((c0.run ops).pending.map (·.key)).Perm ((c0.run ops).entries.map (·.1)) ∧
    ((c0.run ops).entries.map (·.1)).Nodup ∧
    ((c0.run ops).pending.map (·.key)).Nodup ∧
    (c0.run ops).pending.length = (c0.run ops).entries.length ∧
    ∀ kv ∈ (c0.run ops).entries, ∃ e ∈ (c0.run ops).ents,
      (c0.run ops).ent kv.2 = some e ∧ e.name = kv.2 ∧ e.ident = kv.1 := by
  have hI := ((Inv.init hf he hp).run ops).2 ho
  refine ⟨hI.perm, hI.nodup, (hI.perm.nodup_iff).mpr hI.nodup, ?_, ?_⟩
  · have := hI.perm.length_eq
    simpa using this
  · intro kv hkv
    obtain ⟨e, he, hi⟩ := hI.ents kv hkv
    exact ⟨e, (ent_some he).2, he, (ent_some he).1, hi⟩

/-- The full invariant (also: ranks of pending tasks are distinct and bounded by the counter, the
mutator chains of pending tasks cannot panic) is inductive over single steps. -/
theorem C15_inv_step (c : Cron) (op : COp) : Inv c → Inv (c.step op) := fun h => h.step op

/-- … hence holds in every reached state whose oracle flag is clear (this is the hypothesis `Core c`
of `C15_stream_pop` and `C16_success_kept_cursor`). -/
theorem C15_core_run (c0 : Cron) (hf : c0.fixed = true) (he : c0.entries = []) (hp : c0.pending = [])
    (ops : List COp) (ho : (c0.run ops).oracleExhausted = false) : Core (c0.run ops) :=
  ((Inv.init hf he hp).run ops).2 ho

/-- Non-vacuity: two entries stored, two pops, one removal. -/
example :
    let c := CronEx.store0.run [.edit ["a", "b"] [], .start, .pop, .pop, .edit [] ["a"], .pop]
    c.oracleExhausted = false ∧ c.entries.map (·.2) = ["b"] ∧
      c.pending.map (·.task.scheduledAt) = [6000000] := by decide

theorem C15_pop_is_min (c : Cron) :
    (∀ h, c.head = some h →
      h ∈ c.pending ∧ (∀ w ∈ c.pending, (wkey w).less (wkey h) = false) ∧
      c.pop.2 = some h.task ∧ c.peek = some h.task) ∧
    (c.head = none ↔ c.pending = []) ∧
    (c.head = none → c.pop = (c, none) ∧ c.peek = none) ∧
    c.schedule = (sorted c.pending).map (·.task) ∧
    (sorted c.pending).Perm c.pending ∧
    (sorted c.pending).Pairwise (fun a b => (wkey b).less (wkey a) = false) := by
  refine ⟨fun h hh => ⟨head_mem hh, head_min hh, ?_, ?_⟩, head_none_iff c, fun hh => ⟨pop_none hh, ?_⟩,
    rfl, sorted_perm _, sorted_pairwise _⟩
  · rw [pop_some hh]
  · simp [peek, hh]
  · simp [peek, hh]

/-- With distinct insertion ranks (part of the invariant) the first task of `Schedule()` is the one
`Peek` / `Pop` return. -/
theorem C15_schedule_head (c : Cron) (hr : (c.pending.map (·.rank)).Nodup) :
    c.schedule.head? = c.peek := by
  unfold schedule peek
  rw [List.head?_map, sorted_head hr]

theorem C15_schedule_head_run (c0 : Cron) (hf : c0.fixed = true) (he : c0.entries = [])
    (hp : c0.pending = []) (ops : List COp) (ho : (c0.run ops).oracleExhausted = false) :
    (c0.run ops).schedule.head? = (c0.run ops).peek ∧
      (c0.run ops).schedule.head? = (c0.run ops).pop.2 := by
  have h := C15_schedule_head _ (C15_core_run c0 hf he hp ops ho).ranks
  refine ⟨h, h.trans ?_⟩
  unfold peek pop
  cases (c0.run ops).head <;> rfl

/-- Non-vacuity: `b@2ms` (priority 1) is the head of `store1`, before `a@3ms`. -/
example : CronEx.store1.peek.map (·.scheduledAt) = some 2000000 ∧
    CronEx.store1.pop.2.map (·.workId) = some "wb" ∧
    (CronEx.store0.pop.2 = none ∧ CronEx.store0.pop.1.pending = []) := by decide

/-- Lookup form, no hypothesis on names: every step maps the entry stored under a name to itself or
to its one-step advance; `advSet` says which (the popped head's entry / the added entries of an
accepted edit). -/
theorem C15_stream_step_ent (c : Cron) (hf : c.fixed = true) (op : COp) (n : String) :
    (c.step op).ent n = (c.ent n).map (fun x => if advSet c op x.name then x.advance else x) :=
  step_ent hf op n

/-- Membership form (unique names): for every entry `e` before the step and `e'` of the same name
after it, `e'` is `e`, or `e` with the cursor at `e`'s next occurrence. -/
theorem C15_stream_step (c : Cron) (hf : c.fixed = true) (hu : NamesUnique c.ents) (op : COp)
    (e e' : CEntry) (he : e ∈ c.ents) (he' : e' ∈ (c.step op).ents) (hn : e'.name = e.name) :
    (e' = e ∨ ∃ o, e.nextOcc = some o ∧ e' = { e with prev := o }) ∧
    (e'.prev = e.prev ∨ e.nextOcc = some e'.prev) := by
  obtain ⟨e1, he1, heq⟩ := mem_step_ents hf hu op he'
  have hn1 : e1.name = e.name := by
    rw [← hn, heq]; split <;> simp
  obtain rfl : e1 = e := hu.eq_of_name he1 he hn1
  have h1 : e' = e1 ∨ ∃ o, e1.nextOcc = some o ∧ e' = { e1 with prev := o } := by
    rw [heq]
    split
    · cases hno : e1.nextOcc with
      | none => exact .inl (CEntry.advance_of_none hno)
      | some o => exact .inr ⟨o, rfl, CEntry.advance_prev hno⟩
    · exact .inl rfl
  exact ⟨h1, h1.imp (fun h => by rw [h]) fun ⟨o, ho, h⟩ => by rw [h]; exact ho⟩

/-- `Pop`, any code version, no invariant, whatever the popped task's mutators do (even if they
panic): the entry found under the head's identity moves to its next *un-mutated* occurrence `o`,
every other lookup is unchanged. The right-hand sides mention neither `muts` nor the clock. -/
theorem C18_cron_cursor_pop (c : Cron) (t : WTask) (ht : c.head = some t) (e : CEntry)
    (hl : c.lookup t = some e) (o : Time) (hno : e.nextOcc = some o) :
    c.pop.1.ent e.name = some { e with prev := o } ∧
    (∀ n, n ≠ e.name → c.pop.1.ent n = c.ent n) := by
  rw [pop_some ht]
  have he := lookup_some hl
  constructor
  · simp only [resetTimer_ent, popNext_ent, hl, Option.any_some, he, Option.map_some,
      beq_self_eq_true, if_true, CEntry.advance_prev hno]
  · intro n hn
    simp only [resetTimer_ent, popNext_ent, hl, Option.any_some]
    exact ent_map_skip c (P := fun m => m == e.name) _ (by simpa using hn)

/-- A `Pop` on a store satisfying the invariant: the head `t` belongs (identity lookup) to an entry
`e` with identity `t.key`; exactly `e`'s cursor advances, by exactly one occurrence `o`; all other
lookups are unchanged; the new pending task `w` for that identity is `wrap` of `e.Param()` taken
*before* the advance (un-mutated time `o`), with the popped task's mutators and a fresh rank, and it
replaces `t` in the pending bag. -/
theorem C15_stream_pop (c : Cron) (hI : Core c) (t : WTask) (ht : c.head = some t)
    (ho : c.pop.1.oracleExhausted = false) :
    ∃ e o p w l1 l2, c.lookup t = some e ∧ e.ident = t.key ∧ c.ent e.name = some e ∧
      e.nextOcc = some o ∧ e.param = some p ∧ p.scheduledAt = some o ∧
      wrap c e p t.muts (c.counter + 1) = some w ∧ w.key = t.key ∧
      c.pending = l1 ++ t :: l2 ∧ c.pop.1.pending = l1 ++ l2 ++ [w] ∧
      c.pop.1.entries = c.entries ∧
      c.pop.1.ent e.name = some { e with prev := o } ∧
      (∀ n, n ≠ e.name → c.pop.1.ent n = c.ent n) ∧
      c.pop.2 = some t.task := by
  have ho' : (c.popNext t).oracleExhausted = false := by rwa [pop_some ht, resetTimer_oracle] at ho
  obtain ⟨e, o, p, w, l1, l2, hl, hi, he, hno, hp, hw, hsplit, heq⟩ := hI.popNext ht ho'
  obtain ⟨hcur, hoth⟩ := C18_cron_cursor_pop c t ht e hl o hno
  refine ⟨e, o, p, w, l1, l2, hl, hi, he, hno, hp, by rw [CEntry.param_sched hp, hno], hw,
    by rw [(wrap_some hw).1, CEntry.serKey_param hp, hi], hsplit, ?_, ?_, hcur, hoth, by rw [pop_some ht]⟩
  · rw [pop_some ht, resetTimer_pending, heq]
  · rw [pop_some ht, resetTimer_entries, heq]; rfl

/-- the same with unique names, as membership in the object store: every other entry object is
literally unchanged -/
theorem C15_stream_pop_others (c : Cron) (hf : c.fixed = true) (hu : NamesUnique c.ents)
    (x : CEntry) (hx : x ∈ c.ents) (hne : ∀ e, c.popEnt = some e → x.name ≠ e.name) :
    x ∈ c.pop.1.ents := by
  have := step_ents_of_mem hf hu .pop hx
  have hadv : advSet c .pop x.name = false := by
    show c.popEnt.any (fun e => x.name == e.name) = false
    cases hpe : c.popEnt with
    | none => rfl
    | some e => simpa using hne e hpe
  rw [hadv] at this
  exact this

/-- For every run of the repaired code from ANY store, and every entry (looked up by name) whose
schedule is strictly increasing: the un-mutated occurrence times handed to `wrap` for that entry
(`logFor n (runLog c0 ops)`: at every `pushNext` of a `Pop` and for every entry staged by an accepted
`EditTask`) are exactly the occurrences of the schedule in the interval (start cursor, final
cursor] — each once, in schedule order, none skipped. -/
theorem C15_stream (c0 : Cron) (hf : c0.fixed = true) (ops : List COp) (n : String) (e0 : CEntry)
    (h0 : c0.ent n = some e0) (hocc : e0.occ.Pairwise (· < ·)) :
    ∃ e, (c0.run ops).ent n = some e ∧ e.occ = e0.occ ∧ e0.prev ≤ e.prev ∧
      logFor n (runLog c0 ops) = between e0.occ e0.prev e.prev := by
  obtain ⟨e, h1, h2, h4, _, h5⟩ := run_stream hf ops h0 hocc
  exact ⟨e, h1, h2, h4, h5⟩

/-- Unfolded: the logged occurrences are strictly increasing (no repeat), form a contiguous block of
the schedule (no gap): everything before the block is at or before the start cursor, so the block
starts at the first occurrence after the start cursor; and everything after the block is later than
the block and outside (start, final cursor]. If anything was logged, the first logged occurrence is
`Next(start cursor)` and the cursor ends on the last one. -/
theorem C15_stream_consecutive (c0 : Cron) (hf : c0.fixed = true) (ops : List COp) (n : String)
    (e0 : CEntry) (h0 : c0.ent n = some e0) (hocc : e0.occ.Pairwise (· < ·)) :
    let log := logFor n (runLog c0 ops)
    log.Pairwise (· < ·) ∧
    (∃ pre post, e0.occ = pre ++ log ++ post ∧ (∀ o ∈ pre, o ≤ e0.prev) ∧
      (∀ o ∈ post, ∀ x ∈ log, x < o)) ∧
    (∀ o ∈ log, e0.prev < o) ∧
    (log ≠ [] → log.head? = e0.nextOcc ∧
      ∃ e, (c0.run ops).ent n = some e ∧ log.getLast? = some e.prev) ∧
    (log = [] → ∃ e, (c0.run ops).ent n = some e ∧ e.prev = e0.prev) := by
  obtain ⟨e, h1, _, h4, hin, h5⟩ := run_stream hf ops h0 hocc
  obtain ⟨pre, post, hsplit, hpre, hpost⟩ := between_infix hocc e0.prev e.prev
  have hmem : ∀ o ∈ between e0.occ e0.prev e.prev, e0.prev < o ∧ o ≤ e.prev := fun o ho => (mem_between.mp ho).2
  have hcur : e.prev = e0.prev ∨ e.prev ∈ between e0.occ e0.prev e.prev := by
    by_cases heq : e.prev = e0.prev
    · exact .inl heq
    · exact .inr (mem_between.mpr ⟨hin.resolve_left heq, by tomega, by tomega⟩)
  simp only [h5]
  refine ⟨between_sorted hocc _ _, ⟨pre, post, hsplit, hpre, hpost⟩, fun o ho => (hmem o ho).1, ?_, ?_⟩
  · intro hne
    constructor
    · -- the first element of the block is the first occurrence after the start cursor
      cases hb : between e0.occ e0.prev e.prev with
      | nil => exact absurd hb hne
      | cons b rest =>
        rw [hb] at hsplit
        have hb1 := (hmem b (by rw [hb]; simp)).1
        simp only [List.head?_cons]
        symm
        unfold CEntry.nextOcc
        rw [List.find?_eq_some_iff_append]
        refine ⟨by simpa using hb1, pre, rest ++ post, by rw [hsplit]; simp, ?_⟩
        intro o ho
        have := hpre o ho
        simp only [gt_iff_lt, Bool.not_eq_true', decide_eq_false_iff_not]
        tomega
    · refine ⟨e, h1, ?_⟩
      -- the cursor is the largest occurrence of the block, hence its last element
      rcases hcur with h | h
      · rw [h, between_self] at hne; exact absurd rfl hne
      · exact sorted_getLast (between_sorted hocc _ _) h (fun y hy => (hmem y hy).2)
  · intro hnil
    refine ⟨e, h1, ?_⟩
    rcases hcur with h | h
    · exact h
    · rw [hnil] at h; cases h

/-- Non-vacuity: the log of a run with pops and edits over `store0`, and the per-entry streams:
`a` (every 3 ms from 0) got 3, 6; `b` (every 2 ms from 1 ms) got 2, 4, 6; `a2` got 6 (its cursor
started at 3 ms). -/
example :
    let ops := [COp.edit ["a", "b"] [], .start, .pop, .pop, .edit [] ["a"], .pop, .edit ["a2"] []]
    runLog CronEx.store0 ops =
      [("a", 3000000), ("b", 2000000), ("b", 4000000), ("a", 6000000), ("b", 6000000),
        ("a2", 6000000)] ∧
    logFor "a" (runLog CronEx.store0 ops) = [3000000, 6000000] ∧
    logFor "b" (runLog CronEx.store0 ops) = [2000000, 4000000, 6000000] ∧
    logFor "a2" (runLog CronEx.store0 ops) = [6000000] ∧
    (CronEx.store0.run ops).ents.map (·.prev) = [6000000, 6000000, 6000000, 0] := by decide

example : CronEx.store0.ent "b" = some CronEx.entB ∧ CronEx.entB.occ.Pairwise (· < ·) :=
  ⟨rfl, by decide⟩

/-! ### cron clause of C18: mutators never disturb the occurrence sequence -/

/-- Replacement form: two stores with the same object store and the same stored identities whose
heads have the same identity — but arbitrary (different) mutators, times, ranks, clocks — have the
same cursors after `Pop`. -/
theorem C18_cron_cursor_pop_indep (c1 c2 : Cron) (hents : c1.ents = c2.ents)
    (hentries : c1.entries = c2.entries)
    (hhead : c1.head.map (·.key) = c2.head.map (·.key)) (n : String) :
    c1.pop.1.ent n = c2.pop.1.ent n := by
  have hent : ∀ m, c1.ent m = c2.ent m := fun m => ent_congr hents m
  -- the entry a `Pop` advances is found from the head's identity alone
  have hpe : ∀ c : Cron, c.popEnt =
      (c.head.map (·.key)).bind fun k => (c.entries.find? (·.1 == k)).bind fun kv => c.ent kv.2 := fun c => by
    unfold popEnt Cron.lookup
    cases c.head <;> rfl
  rw [pop_ent, pop_ent, hpe, hpe, hhead, hentries]
  simp only [hent]

/-- Accepted `EditTask`: the cursors afterwards are given by a formula that mentions neither the
mutators nor the parse oracles — each added entry moves to its next un-mutated occurrence. -/
theorem C18_cron_cursor_edit (c : Cron) (hf : c.fixed = true) (added removed : List String)
    (hacc : (c.editTask added removed).2 = true) (n : String) :
    (c.editTask added removed).1.ent n =
      (c.ent n).map (fun x => if added.contains x.name then x.advance else x) := by
  simpa only [Cron.step, advSet, hacc, Bool.true_and] using step_ent hf (.edit added removed) n

/-- Replacement form for edits: changing what `ParseDuration` / `ParseInt` return for the
RandomizeScheduledAt labels of the entries (hence the loaded mutators) does not change any cursor,
provided both edits are accepted. -/
theorem C18_cron_cursor_edit_indep (c1 c2 : Cron) (hf1 : c1.fixed = true) (hf2 : c2.fixed = true)
    (fMin fMax : CEntry → Mut.ParseOracle)
    (hents : c2.ents = c1.ents.map (fun e => { e with oMin := fMin e, oMax := fMax e }))
    (added removed : List String)
    (h1 : (c1.editTask added removed).2 = true) (h2 : (c2.editTask added removed).2 = true)
    (n : String) :
    ((c2.editTask added removed).1.ent n).map (·.prev) =
      ((c1.editTask added removed).1.ent n).map (·.prev) := by
  rw [C18_cron_cursor_edit c1 hf1 added removed h1, C18_cron_cursor_edit c2 hf2 added removed h2]
  have hent : c2.ent n = (c1.ent n).map (fun e => { e with oMin := fMin e, oMax := fMax e }) := by
    unfold Cron.ent
    rw [hents, List.find?_map]
    rfl
  rw [hent]
  cases c1.ent n with
  | none => rfl
  | some e =>
    simp only [Option.map_some]
    congr 1
    split
    · have hp : ∀ x : CEntry, x.advance.prev = x.nextOcc.getD x.prev := by
        intro x; unfold CEntry.advance; cases x.nextOcc <;> rfl
      rw [hp, hp]; rfl
    · rfl

/-- Non-vacuity: an entry with a `ScheduleAtNow` mutator: its pending task is scheduled "now"
(1 ms), yet its cursor sits on the un-mutated occurrence 3 ms and the next pop hands out 6 ms's
slot (again mutated to "now"), not a time derived from the mutated one. -/
example :
    let e : CEntry :=
      { CronEx.entA with
          name := "now", base := { workId := some "wn", meta_ := some [(Mut.labelNow, "")] } }
    let c0 : Cron := { ents := [e], clock := { now := 1000000 } }
    let c1 := c0.run [.edit ["now"] [], .start]
    let c2 := c1.run [.advance 4000000, .pop]
    c1.pending.map (·.task.scheduledAt) = [1000000] ∧ c1.ents.map (·.prev) = [3000000] ∧
    c2.pending.map (·.task.scheduledAt) = [4000000] ∧ c2.ents.map (·.prev) = [6000000] := by
  decide

end Gk
