/-
C05, global progress — "the fair fault-free driver runs every scheduled task, within a number of
rounds bounded by an explicit measure of the world" (repaired code: all `Fix` switches on,
`Hook.fixed = true`).

Setting: `Live.driveRound w` is ONE call (`Retry` if the last
returned state is retryable, else `Step`) of the fair fault-free driver on a world between two calls;
`Live.rounds n w` iterates it.  Inside `select` the environment is fair: a pending fire is taken, else
the oldest queued completion, else the oldest running work function completes, else — nothing being
ready — the clock advances to the armed deadline; only if nothing at all can happen the call ends
with `AwaitingNext`.  Because the clock is advanced to the armed deadline whenever the scheduler would
otherwise block, "due" is a moving target and the theorem is stated (and proved) in the stronger
form "NO scheduled task remains, due or not"; the "no due task remains" form is the corollary
`C05_progress_due`.

Hypotheses of the theorems, and why every reachable world between two calls satisfies them:
  * `LiveInv w`   — the C05 invariant; holds after every script from `World.init'`
                    (`C05_liveInv_run_partial`, i.e. user actions `UserOk`, driver `DriverOk`).
  * `StartedOk w` — "the timer is started outside the two-call window Stop/Start"; holds after every
                    script from `World.init'` (`C05_round_invariants_init`).
  * `w.pc = .idle` — the world is between two calls of the driver.
Nothing else is assumed: the last returned state may be anything (retryable or not: the first round is
then a `Retry`), a task may be announced (`lastTask`) and already cancelled by a user, the hook cache
may be stale or empty, a timer error / `getNextErr` may be pending, completions may be queued, work
functions may be running.  (`DispInv` and `hook.started = true` are NOT needed; the latter follows
from `StartedOk` at `idle`.)

The measure.  `Psi w = 12·#scheduled + 8·#running + 4·#queued completions + lvl w`, where the phase
`lvl w ≤ 12` is defined at every program counter (`Live.lvl`); between two calls, in a non-retryable
state:  0 announced task still scheduled < 1 restart pending (`getNextErr` / timer error) <
2 nothing announced (inside `select`: 1 cache fresh < 2 cache not known to be fresh) <
3 `Retry(TaskDone)` < 11 announced task no longer scheduled / `Retry(DispatchErr)` <
12 `Retry(TimerUpdateError)`.  `bound w` is `Psi w` with the phase replaced by its maximum 12.
"The cache is fresh" (`Live.fresh`: timer set, cached time = head's time, a pending fire is justified,
an armed deadline is not before the head's time; or nothing scheduled, cached, armed, pending) is the
extra invariant of a round: it is established by every restart (`fresh_startTimer`), kept
by the waiting steps of `select` (`fresh_advance`) and makes the announce succeed (`good_of_fresh`,
`AutoStep.dec`, cases `changed` / `announce`); it is needed only INSIDE a round, which is why it does not appear as a hypothesis.
-/
import Gk.World
import Gk.Proofs.WorldAuto
import Gk.Proofs.WorldProgress
import Gk.Props.C05
namespace Gk
open Live

/-- The explicit bound is the potential with the phase at its maximum. -/
theorem C05_bound_eq (w : World) :
    bound w = 12 * nSched w + 8 * w.running.length + 4 * w.completed.length + 12 := rfl

theorem C05_potential_le_bound (w : World) : Psi w ≤ bound w := Psi_le_bound w

/-- `nSched` counts the scheduled tasks, due or not. -/
theorem C05_nSched_zero (w : World) :
    nSched w = 0 ↔ ∀ t ∈ w.obs.repo.tasks, t.state ≠ .scheduled := cntSched_zero

/-- FULL. Per micro-step: while a task is scheduled, every action of the fair fault-free driver
(at ANY program counter, under the round invariant `PQ`) decreases the potential, or the call goes
on and the potential does not increase. -/
theorem C05_step_decreases (w : World) : PQ w → 0 < nSched w →
    Psi (w.step (autoAct w)) < Psi w ∨
      ((w.step (autoAct w)).pc ≠ .idle ∧ Psi (w.step (autoAct w)) ≤ Psi w) :=
  fun hQ hS => psi_step hQ hS

/-- FULL. Per round: between two calls, while a task is scheduled, one round of the fair fault-free
driver strictly decreases the potential — or leaves nothing scheduled. This covers every round type:
announce (fresh / stale cache, with or without the restart prologue), failed announce
(`ErrScheduleStoppedOrChanged`), dispatch, refused dispatch, result / completion rounds, advance
rounds and the three `Retry` rounds. -/
theorem C05_round_decreases (w : World) :
    LiveInv w → StartedOk w → w.pc = .idle → 0 < nSched w →
    nSched (driveRound w) = 0 ∨ Psi (driveRound w) < Psi w :=
  fun hL hS hpc hpos => round_decreases hL hS hpc hpos

/-- FULL. The same without the hypothesis "a task is scheduled": every round strictly decreases the
potential, or it is the blocked round (`AwaitingNext`) and the world is quiet (`Live.Quiet`). -/
theorem C05_round_decreases_or_quiet (w : World) :
    LiveInv w → StartedOk w → w.pc = .idle →
    Psi (driveRound w) < Psi w ∨ Quiet (driveRound w) :=
  fun hL hS hpc => round_decreases_gen hL hS hpc

/-- FULL. Rounds never create a scheduled task (no hypothesis at all). -/
theorem C05_rounds_no_new_scheduled (n : Nat) (w : World) : nSched (rounds n w) ≤ nSched w :=
  nSched_rounds n w

/-- FULL — the global progress theorem of C05. From every world between two calls that satisfies
the invariants, the fair fault-free driver reaches, within `n ≤ bound w` rounds
(`bound w = 12·#scheduled + 8·#running + 4·#completed + 12`), a world between two calls in which
  * no task is scheduled — a fortiori no DUE scheduled task remains;
  * every task that was scheduled at the start (in particular every task that was due) has had its
    work function started since: the log is the old log plus new entries, one of which carries its
    id;
  * the invariants hold again.
There is no "unless": in fault-free rounds nothing else can happen to a scheduled task. -/
theorem C05_progress (w : World) : LiveInv w → StartedOk w → w.pc = .idle →
    ∃ n, n ≤ bound w ∧ (rounds n w).pc = .idle ∧
      (∀ t ∈ (rounds n w).obs.repo.tasks, t.state ≠ .scheduled) ∧
      (∃ new, (rounds n w).log = w.log ++ new ∧
        ∀ t ∈ w.obs.repo.tasks, t.state = .scheduled → ∃ e ∈ new, e.id = t.id) ∧
      LiveInv (rounds n w) ∧ StartedOk (rounds n w) := by
  intro hL hS hpc
  obtain ⟨n, hn, h⟩ := progress hL hS hpc
  exact ⟨n, Nat.le_trans hn (Psi_le_bound w), h⟩

/-- The same with the sharper bound `Psi w` (the potential itself). -/
theorem C05_progress_potential (w : World) : LiveInv w → StartedOk w → w.pc = .idle →
    ∃ n, n ≤ Psi w ∧ (rounds n w).pc = .idle ∧
      (∀ t ∈ (rounds n w).obs.repo.tasks, t.state ≠ .scheduled) ∧
      (∃ new, (rounds n w).log = w.log ++ new ∧
        ∀ t ∈ w.obs.repo.tasks, t.state = .scheduled → ∃ e ∈ new, e.id = t.id) ∧
      LiveInv (rounds n w) ∧ StartedOk (rounds n w) :=
  fun hL hS hpc => progress hL hS hpc

/-- FULL — the statement in the "no due task remains" form: within `bound w` rounds no DUE scheduled
task remains, and every task that was due and scheduled at the start appears in the log. -/
theorem C05_progress_due (w : World) : LiveInv w → StartedOk w → w.pc = .idle →
    ∃ n, n ≤ bound w ∧
      (∀ t ∈ (rounds n w).obs.repo.tasks, t.state = .scheduled →
        ¬ t.scheduledAt ≤ (rounds n w).obs.clock.now) ∧
      (∀ t ∈ w.obs.repo.tasks, t.state = .scheduled → t.scheduledAt ≤ w.obs.clock.now →
        ∃ e ∈ (rounds n w).log, e.id = t.id) := by
  intro hL hS hpc
  obtain ⟨n, hn, _, hz, ⟨new, hlog, hst⟩, _⟩ := C05_progress w hL hS hpc
  refine ⟨n, hn, fun t ht hs => absurd hs (hz t ht), ?_⟩
  intro t ht hs _
  obtain ⟨e, he, hid⟩ := hst t ht hs
  exact ⟨e, by rw [hlog]; exact List.mem_append_right _ he, hid⟩

/-- FULL. Quiescence is stable: once nothing is scheduled, nothing is scheduled after any number of
further rounds (so the `n` of `C05_progress` can be replaced by any larger number, e.g. `bound w`). -/
theorem C05_quiescent_stable (w : World) (n m : Nat) : n ≤ m →
    (∀ t ∈ (rounds n w).obs.repo.tasks, t.state ≠ .scheduled) →
    ∀ t ∈ (rounds m w).obs.repo.tasks, t.state ≠ .scheduled :=
  fun hm h => quiescent_stable h m hm

/-- FULL. After exactly `bound w` rounds nothing is scheduled. -/
theorem C05_progress_at_bound (w : World) : LiveInv w → StartedOk w → w.pc = .idle →
    ∀ t ∈ (rounds (bound w) w).obs.repo.tasks, t.state ≠ .scheduled := by
  intro hL hS hpc
  obtain ⟨n, hn, _, hz, _⟩ := C05_progress w hL hS hpc
  exact quiescent_stable hz _ hn

/-- FULL — quiescence. The fair fault-free driver terminates in the only legitimate way: after at
most `Psi w ≤ bound w` productive rounds, the next round (round `n`, `1 ≤ n ≤ bound w + 1`) returns
`AwaitingNext` from a blocked `select`, and then (`Live.Quiet`) nothing is scheduled, nothing is
running, no completion is queued, no fire is pending, nothing is armed, nothing is announced, no
restart or timer error is pending; every task that was scheduled at the start has been started. -/
theorem C05_quiescence (w : World) : LiveInv w → StartedOk w → w.pc = .idle →
    ∃ n, 1 ≤ n ∧ n ≤ bound w + 1 ∧ Quiet (rounds n w) ∧
      (∃ new, (rounds n w).log = w.log ++ new ∧
        ∀ t ∈ w.obs.repo.tasks, t.state = .scheduled → ∃ e ∈ new, e.id = t.id) ∧
      LiveInv (rounds n w) ∧ StartedOk (rounds n w) := by
  intro hL hS hpc
  obtain ⟨n, h1, hn, h⟩ := quiescence hL hS hpc
  have := Psi_le_bound w
  exact ⟨n, h1, by omega, h⟩

/-- What `Quiet` says. -/
theorem C05_quiet_iff (w : World) :
    Quiet w ↔ (w.pc = .idle ∧ w.ret = .awaitingNext ∧
      (∀ t ∈ w.obs.repo.tasks, t.state ≠ .scheduled) ∧ w.running = [] ∧ w.completed = [] ∧
      w.obs.clock.pending = false ∧ w.obs.clock.armed = none ∧ w.lastTask = none ∧
      w.getNextErr = false ∧ w.obs.hook.lastErr = none) := by
  constructor
  · intro h
    exact ⟨h.pc, h.ret, cntSched_zero.1 h.sched, h.running, h.completed, h.pending, h.armed, h.last,
      h.gerr, h.lerr⟩
  · intro ⟨h1, h2, h3, h4, h5, h6, h7, h8, h9, h10⟩
    exact ⟨h1, h2, cntSched_zero.2 h3, h4, h5, h6, h7, h8, h9, h10⟩

/-- FULL. A quiet world stays quiet: every further round blocks again and changes nothing (but the
`ctxDone` flag of the finished call). -/
theorem C05_quiet_stable (w : World) (n : Nat) : Quiet w →
    Quiet (rounds n w) ∧ driveRound w = { w with ctxDone := false } :=
  fun hq => ⟨quiet_rounds hq n, quiet_round hq⟩

/-- The invariants (including `DispInv` of C20) hold between any two rounds. -/
theorem C05_rounds_invariants (w : World) (n : Nat) :
    LiveInv w → StartedOk w → DispInv w → w.pc = .idle →
    LiveInv (rounds n w) ∧ StartedOk (rounds n w) ∧ DispInv (rounds n w) ∧ (rounds n w).pc = .idle :=
  fun hL hS hD hpc => rounds_inv hL hS hD hpc n

/-- End-to-end over scripts: after ANY script from `World.init'` (user mutations, advances,
completions, faults, cancellations, `Step`/`Retry` in any order allowed by `DriverOk`) that ends
between two calls, the fair fault-free driver runs every scheduled task within `bound` rounds. -/
theorem C05_progress_run (t0 : Time) (acts : List Act) :
    World.Script (World.init' t0) acts → ((World.init' t0).run acts).pc = .idle →
    let w := (World.init' t0).run acts
    ∃ n, n ≤ bound w ∧ (rounds n w).pc = .idle ∧
      (∀ t ∈ (rounds n w).obs.repo.tasks, t.state ≠ .scheduled) ∧
      (∃ new, (rounds n w).log = w.log ++ new ∧
        ∀ t ∈ w.obs.repo.tasks, t.state = .scheduled → ∃ e ∈ new, e.id = t.id) := by
  intro hs hpc w
  have ⟨hL, hS, _⟩ := C05_round_invariants_init t0 acts hs
  obtain ⟨n, hn, h1, h2, h3, _⟩ := C05_progress w hL hS hpc
  exact ⟨n, hn, h1, h2, h3⟩

/-- Two tasks t1 (5 s), t2 (7 s), clock at 5 s, fire pending, fresh cache (the world of the example in
C05.lean): the hypotheses of `C05_progress` hold (`Script` gives `LiveInv`/`StartedOk`), the
potential is 24 + 2, the bound 36; the driver needs 5 rounds until nothing is scheduled (announce t1,
dispatch t1, complete t1 while waiting, announce t2 after the advance to 7 s, dispatch t2), not 4;
both tasks are in the new part of the log. -/
example :
    let acts : List Act :=
      [.user (.add "t1" { workId := some "w", scheduledAt := some (C05.sec 5) }) none,
       .user (.add "t2" { workId := some "w", scheduledAt := some (C05.sec 7) }) none,
       .advance (C05.sec 5)]
    let w := (World.init' C05.t0).run acts
    World.Script (World.init' C05.t0) acts ∧ w.pc = .idle ∧
    nSched w = 2 ∧ Psi w = 26 ∧ bound w = 36 ∧
    nSched (rounds 4 w) = 1 ∧ nSched (rounds 5 w) = 0 ∧
    w.log = [] ∧ (rounds 5 w).log.map (·.id) = ["t1", "t2"] ∧
    -- quiescence (`C05_quiescence`): round 7 is the blocked one
    (rounds 6 w).ret ≠ .awaitingNext ∧ (rounds 7 w).ret = .awaitingNext ∧
    (rounds 7 w).running = [] ∧ (rounds 7 w).completed = [] ∧ nSched (rounds 7 w) = 0 ∧
    (rounds 7 w).obs.clock.pending = false ∧ (rounds 7 w).obs.clock.armed = none ∧
    (rounds 7 w).lastTask = none ∧ (rounds 7 w).getNextErr = false ∧
    (rounds 7 w).obs.hook.lastErr = none ∧ Psi (rounds 7 w) = 2 := by
  decide

/-- The stale cache (the D12 situation, before any `Step`): t2 added at 5 s and postponed to 15 s, the
clock at 5 s: the fire is pending but the head is not due and the cached time is wrong. The first
round fails (`ErrScheduleStoppedOrChanged`, `getNextErr` set: phase 2 → 1), the second restarts the
timer, waits for 15 s and announces (phase 1 → 0), the third dispatches. -/
example :
    let acts : List Act :=
      [.user (.add "t2" { workId := some "w", scheduledAt := some (C05.sec 5), priority := some 1 }) none,
       .user (.update "t2" { priority := some 0, scheduledAt := some (C05.sec 15) }) none,
       .advance (C05.sec 5)]
    let w := (World.init' C05.t0).run acts
    World.Script (World.init' C05.t0) acts ∧ w.pc = .idle ∧
    w.obs.hook.stale = true ∧ w.obs.clock.pending = true ∧
    nSched w = 1 ∧ Psi w = 14 ∧ bound w = 24 ∧
    (rounds 1 w).ret = .nextTask none (some .schedChanged) ∧ Psi (rounds 1 w) = 13 ∧
    (rounds 2 w).lastTask.map (·.id) = some "t2" ∧ Psi (rounds 2 w) = 12 ∧
    nSched (rounds 2 w) = 1 ∧ nSched (rounds 3 w) = 0 ∧
    (rounds 3 w).log.map (fun e => (e.id, decide (e.task.scheduledAt ≤ e.at_))) = [("t2", true)] := by
  decide

/-- An announced task that a user cancels before the dispatch, and a second task: the world between
the calls has `lastTask = t1` (cancelled: phase 11); the dispatch round is refused
(`DispatchErr(already cancelled)`, not retryable), then t3 is announced and run. -/
example :
    let acts : List Act := C05.announce ++
      [.user (.cancel "t1") none,
       .user (.add "t3" { workId := some "w", scheduledAt := some (C05.sec 6) }) none]
    let w := (World.init' C05.t0).run acts
    World.Script (World.init' C05.t0) acts ∧ w.pc = .idle ∧
    w.lastTask.map (fun t => (t.id, t.state)) = some ("t1", .scheduled) ∧
    w.obs.repo.tasks.map (fun t => (t.id, t.state)) = [("t1", .cancelled), ("t3", .scheduled)] ∧
    nSched w = 1 ∧ Psi w = 23 ∧ bound w = 24 ∧
    (rounds 1 w).ret = .dispatchErr (w.lastTask.getD World.zeroTask) .alreadyCancelled ∧
    Psi (rounds 1 w) < Psi w ∧
    nSched (rounds 2 w) = 1 ∧ nSched (rounds 3 w) = 0 ∧
    (rounds 3 w).log.map (·.id) = ["t3"] := by
  decide

/-- A retryable `DispatchErr` (no worker before the context ended): the first round of the fair
driver is a `Retry`, which marks and runs t1. -/
example :
    let acts : List Act := C05.announce ++
      [.sched .beginStep, .sched .lastTimerErr, .sched (.waitWorker false)]
    let w := (World.init' C05.t0).run acts
    World.Script (World.init' C05.t0) acts ∧ w.pc = .idle ∧ retryable w.ret = true ∧
    nSched w = 1 ∧ Psi w = 23 ∧ bound w = 24 ∧
    nSched (rounds 1 w) = 0 ∧ (rounds 1 w).log.map (·.id) = ["t1"] ∧
    (rounds 1 w).ret = .dispatched "t1" := by
  decide

/-- Running work functions and queued completions are part of the measure: t1 running, t2 due. -/
example :
    let acts : List Act :=
      [.user (.add "t1" { workId := some "w", scheduledAt := some (C05.sec 5) }) none,
       .user (.add "t2" { workId := some "w", scheduledAt := some (C05.sec 5) }) none,
       .advance (C05.sec 5)]
    let w := rounds 2 ((World.init' C05.t0).run acts)
    w.pc = .idle ∧ w.running.map (·.1) = ["t1"] ∧ nSched w = 1 ∧ bound w = 32 ∧
    nSched (rounds 2 w) = 0 ∧ (rounds 2 w).log.map (·.id) = ["t1", "t2"] ∧
    (rounds 4 w).running = [] ∧ (rounds 4 w).completed = [] ∧
    (rounds 4 w).obs.repo.tasks.map (fun t => (t.id, t.state)) = [("t1", .done), ("t2", .done)] := by
  decide

end Gk

#print axioms Gk.C05_progress
#print axioms Gk.C05_progress_potential
#print axioms Gk.C05_progress_due
#print axioms Gk.C05_progress_at_bound
#print axioms Gk.C05_progress_run
#print axioms Gk.C05_round_decreases
#print axioms Gk.C05_step_decreases
#print axioms Gk.C05_rounds_no_new_scheduled
#print axioms Gk.C05_quiescent_stable
#print axioms Gk.C05_rounds_invariants
#print axioms Gk.C05_round_decreases_or_quiet
#print axioms Gk.C05_quiescence
#print axioms Gk.C05_quiet_iff
#print axioms Gk.C05_quiet_stable
