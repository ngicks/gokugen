/-
C20 — the safety half under faults: whatever faults are injected into the scheduler's repository
calls (error before the effect, error after the effect, hook `GetNext` faults, context cancellation),
no work function is started twice, none is started without the task having been marked dispatched,
and (unless the held task is postponed, D3i) none is started early.

`Script` (`World.Script` of Proofs/World.lean: users may add / update / cancel and start / stop the timer, no
premise on the driver; not the `Live.World.Script` of the liveness files) already ranges over every fault
placement, so this is a corollary of C03 / C04; it is stated on its own because the differential harness
reports fault runs under C20.
-/
import Gk.Proofs.World
import Gk.Props.C03
import Gk.Props.C04
import Gk.Props.C06
import Gk.Proofs.SchedEq
namespace Gk
open World WP

theorem C20_safety (t0 : Time) (acts : List Act) (hs : (init t0).Script acts) :
    ((init t0).run acts).atMostOnce = true ∧
    ((init t0).run acts).dispatchedAtEntry = true ∧
    ((init t0).NoPostpone acts → ((init t0).run acts).noEarlyStart = true) :=
  ⟨C04_atMostOnce t0 acts hs, C04_dispatchedAtEntry t0 acts hs, C03_partial t0 acts hs⟩

/-- A repository call of the scheduler that fails before taking effect leaves the repository as it
was and makes `Step` / `Retry` return an error state that carries what is needed to retry
(the task for a dispatch, the id and outcome for a completion). -/
theorem C20_fault_noop (w : World) :
    (∀ t r hf, w.pc = .d_mark t r →
      (w.sched (.markDispatched .before hf)).1.obs.repo = w.obs.repo ∧
      (w.sched (.markDispatched .before hf)).1.pc = .idle ∧
      (w.sched (.markDispatched .before hf)).1.ret = .dispatchErr t .other) ∧
    (∀ id o, (w.pc = .s_markDone id o ∨ w.pc = .r_markDone id o) →
      (w.sched (.markDone .before)).1.obs.repo = w.obs.repo ∧
      (w.sched (.markDone .before)).1.pc = .idle ∧
      (w.sched (.markDone .before)).1.ret = .taskDone id o (some .other)) ∧
    (∀ t, (w.pc = .d_get t ∨ w.pc = .r_getById t) →
      (w.sched (.getById .before)).1.obs.repo = w.obs.repo ∧
      (w.sched (.getById .before)).1.pc = .idle ∧
      (w.sched (.getById .before)).1.ret = .dispatchErr t .other) ∧
    (w.pc = .s_getNext →
      (w.sched (.getNext .before)).1.obs.repo = w.obs.repo ∧
      (w.sched (.getNext .before)).1.pc = .idle ∧
      (w.sched (.getNext .before)).1.ret = .nextTask none (some .other) ∧
      (w.sched (.getNext .before)).1.lastTask = none ∧
      (w.sched (.getNext .before)).1.getNextErr = true) := by
  refine ⟨fun t r hf hpc => ?_, fun id o hpc => ?_, fun t hpc => ?_, fun hpc => ?_⟩
  · rw [sched_mark hpc]; exact ⟨rfl, rfl, rfl⟩
  · rcases hpc with hpc | hpc
    · rw [sched_markDone hpc]; exact ⟨rfl, rfl, rfl⟩
    · rw [sched_rmarkDone hpc]; exact ⟨rfl, rfl, rfl⟩
  · rcases hpc with hpc | hpc
    · rw [sched_get hpc]; exact ⟨rfl, rfl, rfl⟩
    · rw [sched_rget hpc]; exact ⟨rfl, rfl, rfl⟩
  · rw [sched_getNext hpc]; exact ⟨rfl, rfl, rfl, rfl, rfl⟩

/-- every error state returned after such a fault is an error state (`Err() ≠ nil`), so a driver that
retries on `Err() ≠ nil` retries it -/
theorem C20_fault_states_are_errors (t : Task) (id : String) (o : Outcome) :
    (SS.dispatchErr t .other).err ≠ none ∧ (SS.taskDone id o (some .other)).err ≠ none ∧
    (SS.nextTask none (some .other)).err ≠ none := by
  simp [SS.err]

/-- A cancelled context has the same effect on the writes: nothing is written. -/
theorem C20_ctx_noop (w : World) (hc : w.ctxDone = true) :
    (∀ t r f hf, w.pc = .d_mark t r →
      (w.sched (.markDispatched f hf)).1.obs.repo = w.obs.repo ∧
      ∃ e, (w.sched (.markDispatched f hf)).1.ret = .dispatchErr t e) ∧
    (∀ id o f, (w.pc = .s_markDone id o ∨ w.pc = .r_markDone id o) →
      (w.sched (.markDone f)).1.obs.repo = w.obs.repo ∧
      ∃ e, (w.sched (.markDone f)).1.ret = .taskDone id o (some e)) := by
  refine ⟨fun t r f hf hpc => ?_, fun id o f hpc => ?_⟩
  · rw [sched_mark hpc]
    simp only [hc, if_true]
    cases f <;> exact ⟨rfl, _, rfl⟩
  · have h := C06_markdone_failed_keeps_outcome w id o f hpc (.inr hc)
    exact ⟨h.1, h.2.2⟩

/-! ### Non-vacuity: a run with a fault on every kind of call that still starts the work function once -/

namespace C20

def t0 : Time := 63808128000000000000
def sec : Time := 1000000000
def pT : Param := { workId := some "w", scheduledAt := some (t0 + 10 * sec) }

def faulty : List Act :=
  [ .user .start none, .user (.add "t" pT) (some .other),      -- hook GetNext fault on the re-arm
    .advance (t0 + 40 * sec),
    .sched .beginStep, .sched .lastTimerErr,                    -- LastTimerUpdateError ≠ nil: restart
    .sched .stopTimer, .sched (.startTimer none), .sched .lastTimerErr,
    .sched .selTimer, .sched (.getNext .before),                -- GetNext fails
    .sched .beginStep, .sched .stopTimer, .sched (.startTimer none), .sched .lastTimerErr,
    .sched .selTimer, .sched (.getNext .none), .sched .nextScheduled,
    .sched .beginStep, .sched .lastTimerErr, .sched (.waitWorker false),   -- no worker: DispatchErr ctx
    .sched .beginRetry, .sched (.getById .before),              -- Retry's GetById fails
    .sched .beginRetry, .sched (.getById .none), .sched (.waitWorker true),
    .sched (.markDispatched .after none),                       -- marked, then error
    .sched .beginRetry, .sched (.getById .none), .sched (.waitWorker true),
    .sched .cancelCtx, .sched (.getById .none),                 -- context cancelled before GetById
    .sched .beginRetry, .sched (.getById .none), .sched (.waitWorker true), .sched (.getById .after),
    .sched .beginRetry, .sched (.getById .none), .sched (.waitWorker true), .sched (.getById .none),
    .complete "t" .nil,
    -- the `DispatchErr`s above left the restart request set (D21): this `Step` restarts the timer first
    .sched .beginStep, .sched .stopTimer, .sched (.startTimer none), .sched .lastTimerErr,
    .sched (.selResult "t"), .sched (.markDone .before),
    .sched .beginRetry, .sched (.markDone .none) ]

end C20

example :
    (init C20.t0).Script C20.faulty ∧ (init C20.t0).NoPostpone C20.faulty ∧
    ((init C20.t0).run C20.faulty).stuck = false ∧
    (((init C20.t0).run C20.faulty).log.map (fun e => (e.id, e.task.state))) = [("t", .dispatched)] ∧
    marksOf (init C20.t0) C20.faulty = ["t"] ∧
    (((init C20.t0).run C20.faulty).obs.repo.lookup "t").map (·.state) = some .done ∧
    ((init C20.t0).run C20.faulty).ret = .zero := by
  decide +kernel

end Gk
