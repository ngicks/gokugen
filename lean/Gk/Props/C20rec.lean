/-
C20 (recovery, the *eventual* half) — once faults cease, the fair fault-free driver completes the
recovery in ONE call:

  "After a transient failure (repository error before or after effect, cancelled context) at any
   scheduler call, the scheduler's returned state names what remains to be done, and a driver that
   retries reaches the same end as if no failure had happened: no task is lost (left dispatched
   without ever running), none runs twice."

`Live.driveRound w` is one call of the fair fault-free driver on a world between two calls: `Retry`
if the state the last call returned is retryable (`Live.retryable`), else `Step`; no fault, a free
worker, no cancellation, no interfering user mutation (described in `Gk/Props/C05.lean`, before `C05_round_ends`).

The exception of the model stays explicit: scripts contain the driver's part of the contract
(`World.DriverOk`, part of `World.Script`): a retryable `DispatchErr` is answered with `Retry`, not
with `Step` (`C20_step_over_dispatchErr_now` shows what happens otherwise). The fair driver keeps
it by construction (`Live.autoAct_ok`).
-/
import Gk.World
import Gk.Proofs.WorldAuto
import Gk.Proofs.WorldRecover
import Gk.Props.C05
import Gk.Props.C20live
namespace Gk
open Live

theorem C20rec.count_one {l : List RunEntry} {x : RunEntry} {id : String}
    (hl : ∀ y ∈ l, y.id ≠ id) (hx : x.id = id) :
    ((l ++ [x]).filter (fun y => y.id == id)).length = 1 := by
  have h1 : l.filter (fun y => y.id == id) = [] := by
    rw [List.filter_eq_nil_iff]
    intro y hy
    simpa using hl y hy
  simp [List.filter_append, h1, hx]

/-- the record `MarkAsDispatched` writes at time `now` -/
def C20rec.marked (now : Time) (u : Task) : Task :=
  { u with state := .dispatched, dispatchedAt := some (normalize now) }

/-- Between two calls, the driver holds a retryable `DispatchErr t e`, the task is stored as
`scheduled` (the failed attempt did not mark it) or `dispatched` (it did), and its work function has
not been started. ONE round of the fair fault-free driver (a `Retry`) starts the work function exactly
once: the log grows by exactly the entry of `t.id`, the record handed over (`cur`) is in state
`dispatched`, it is the record now stored, it is running, and the driver holds `Dispatched t.id`.
Sub-case *mark already took effect*: the mark is skipped, `cur` is the stored record, the observable
(repository, hook, clock) is untouched. Sub-case *mark not yet done*: the task is marked now
(`MarkAsDispatched` at the current time), the observable is the one after that call.
FULL (the only invariant used is `w.fix = {}`, i.e. the repaired D4 path `retryMarks`). -/
theorem C20_retry_dispatchErr_recovers (w : World) (t u : Task) (e : Err) :
    LiveInv w → w.pc = .idle → w.ret = .dispatchErr t e → retryable w.ret = true →
    w.obs.repo.lookup t.id = some u → (u.state = .scheduled ∨ u.state = .dispatched) →
    (∀ x ∈ w.log, x.id ≠ t.id) →
    let w' := driveRound w
    let cur : Task := if u.state = .dispatched then u else C20rec.marked w.obs.clock.now u
    w'.pc = .idle ∧ w'.ret = .dispatched t.id ∧
    w'.log = w.log ++ [{ id := t.id, at_ := w.obs.clock.now, task := cur }] ∧
    (w'.log.filter (fun x => x.id == t.id)).length = 1 ∧
    cur.state = .dispatched ∧
    w'.obs.repo.lookup t.id = some cur ∧
    w'.running = w.running ++ [(t.id, cur)] ∧
    w'.completed = w.completed ∧ w'.reported = w.reported ∧ w'.lastTask = w.lastTask ∧
    w'.getNextErr = w.getNextErr ∧ w'.stuck = w.stuck ∧
    (u.state = .dispatched → driveRound w = afterRetryRun w t u ∧ w'.obs = w.obs) ∧
    (u.state = .scheduled → driveRound w = afterRetryMark w t cur ∧
      w'.obs = (w.obs.step (.dispatch t.id) none).1) := by
  intro hL hpc hr hq hu hs hlog
  have hq' := (retryable_dispatchErr hr).1 hq
  dsimp only
  rcases hs with hs | hs
  · have hne : ¬ u.state = .dispatched := by rw [hs]; nofun
    rw [if_neg hne, round_retry_mark hpc hL.retryMarks hr hq' hu hs]
    exact ⟨rfl, rfl, rfl, C20rec.count_one hlog rfl, rfl, (dispatch_step_scheduled w.obs t.id none hu hs).2, rfl, rfl,
      rfl, rfl, rfl, rfl, fun h' => absurd h' hne, fun _ => ⟨rfl, rfl⟩⟩
  · rw [if_pos hs, round_retry_skip hpc hL.retryMarks hr hq' hu hs]
    exact ⟨rfl, rfl, rfl, C20rec.count_one hlog rfl, hs, hu, rfl, rfl, rfl, rfl, rfl, rfl, fun _ => ⟨rfl, rfl⟩,
      fun h' => by rw [hs] at h'; cases h'⟩

/-- Sub-case *refused*: the stored record is neither scheduled nor dispatched. `Retry` fetches it, tries to mark it,
the repository refuses with the verdict `e'` that `def.ErrKind` reads off its timestamps: the round ends with
`DispatchErr t e'` — a repository verdict (`def.IsDefError`), NOT retryable; nothing runs, nothing is written. -/
theorem C20_retry_dispatchErr_refused (w : World) (t u : Task) (e e' : Err) :
    LiveInv w → w.pc = .idle → w.ret = .dispatchErr t e → retryable w.ret = true →
    w.obs.repo.lookup t.id = some u → u.state ≠ .scheduled → u.state ≠ .dispatched →
    errKindMutate u = some e' →
    driveRound w = { w with ctxDone := false, pc := .idle, ret := .dispatchErr t e' } ∧
    retryable (driveRound w).ret = false ∧
    (driveRound w).log = w.log ∧ (driveRound w).running = w.running ∧ (driveRound w).obs = w.obs := by
  intro hL hpc hr hq hu hs hs' hk
  have h := round_retry_refused hpc hL.retryMarks hr ((retryable_dispatchErr hr).1 hq)
    (hL.dispatchErr_restart hpc hr) hu hs hs' hk
  rw [h]
  refine ⟨rfl, ?_, rfl, rfl, rfl⟩
  simp [retryable, errKindMutate_isDefError hk]

/-- In particular *cancelled meanwhile*: the user cancelled the task between the failed call and the
`Retry` (possible only while it is still `scheduled`, i.e. when the failed attempt had not marked it).
The repository refuses with `ErrAlreadyCancelled`. (`u.consistent` is the C12 record consistency: `cancelled_at`
is set.) -/
theorem C20_retry_dispatchErr_cancelled (w : World) (t u : Task) (e : Err) :
    LiveInv w → w.pc = .idle → w.ret = .dispatchErr t e → retryable w.ret = true →
    w.obs.repo.lookup t.id = some u → u.state = .cancelled → u.consistent = true →
    driveRound w = { w with ctxDone := false, pc := .idle, ret := .dispatchErr t .alreadyCancelled } ∧
    (driveRound w).pc = .idle ∧ (driveRound w).ret = .dispatchErr t .alreadyCancelled ∧
    retryable (driveRound w).ret = false ∧
    (driveRound w).log = w.log ∧ (driveRound w).running = w.running ∧ (driveRound w).obs = w.obs := by
  intro hL hpc hr hq hu hs hc
  have ⟨h, hq', h1, h2, h3⟩ := C20_retry_dispatchErr_refused w t u e _ hL hpc hr hq hu (by rw [hs]; nofun)
    (by rw [hs]; nofun) (errKindMutate_cancelled hs hc)
  exact ⟨h, by rw [h], by rw [h], hq', h1, h2, h3⟩

/-- Sub-case *removed meanwhile* (no operation of this model removes a task — ent's `DeleteEnded`
would; stated for completeness, what the code does): `GetById` fails with `ErrIdNotFound`, the code
goes on with the zero task, `MarkAsDispatched("")` is refused with `ErrIdNotFound`: the round ends with
`DispatchErr zeroTask idNotFound`, NOT retryable; nothing runs, nothing is written. -/
theorem C20_retry_dispatchErr_removed (w : World) (t : Task) (e : Err) :
    LiveInv w → w.pc = .idle → w.ret = .dispatchErr t e → retryable w.ret = true →
    w.obs.repo.lookup t.id = none → w.obs.repo.lookup "" = none →
    driveRound w =
      { w with ctxDone := false, pc := .idle, ret := .dispatchErr World.zeroTask .idNotFound } ∧
    retryable (driveRound w).ret = false ∧
    (driveRound w).log = w.log ∧ (driveRound w).running = w.running ∧ (driveRound w).obs = w.obs := by
  intro hL hpc hr hq hu h0
  have h := round_retry_missing hpc hL.retryMarks hr ((retryable_dispatchErr hr).1 hq)
    (hL.dispatchErr_restart hpc hr) hu h0
  rw [h]
  exact ⟨rfl, rfl, rfl, rfl, rfl⟩

/-- announce t1; `Step`: the context ends before a worker is free → `DispatchErr t1 ctx`, t1 still
scheduled (the mark was never attempted). -/
def C20.noWorker : List Act :=
  C05.announce ++ [.sched .beginStep, .sched .lastTimerErr, .sched (.waitWorker false)]

/-- ... and the user cancels t1 before the driver retries -/
def C20.noWorkerCancelled : List Act := C20.noWorker ++ [.user (.cancel "t1") none]

/-- `C20_retry_dispatchErr_recovers`, sub-case *mark already took effect* (`C20.markFails`:
`MarkAsDispatched` took effect and then failed): reachable, meets the hypotheses; the round starts t1
once with the stored (dispatched) record and leaves the repository alone. -/
example :
    let w := (World.init' C05.t0).run C20.markFails
    World.Script (World.init' C05.t0) C20.markFails ∧ w.pc = .idle ∧ retryable w.ret = true ∧
    (match w.ret with | .dispatchErr t e => t.id == "t1" && e == Err.other | _ => false) = true ∧
    (w.obs.repo.lookup "t1").map (·.state) = some .dispatched ∧ w.log = [] ∧
    (driveRound w).ret = .dispatched "t1" ∧
    (driveRound w).log.map (fun x => (x.id, x.task.state, some x.task == w.obs.repo.lookup "t1"))
      = [("t1", .dispatched, true)] ∧
    (driveRound w).obs.repo.tasks.map (fun t => (t.id, t.state)) = [("t1", .dispatched)] := by
  decide

/-- `C20_retry_dispatchErr_recovers`, sub-case *mark not yet done* (`C20.noWorker`): the round marks t1
now and starts it once with the dispatched record. -/
example :
    let w := (World.init' C05.t0).run C20.noWorker
    World.Script (World.init' C05.t0) C20.noWorker ∧ w.pc = .idle ∧ retryable w.ret = true ∧
    (match w.ret with | .dispatchErr t e => t.id == "t1" && e == Err.ctx | _ => false) = true ∧
    (w.obs.repo.lookup "t1").map (·.state) = some .scheduled ∧ w.log = [] ∧
    (driveRound w).ret = .dispatched "t1" ∧
    (driveRound w).log.map (fun x => (x.id, x.task.state, x.task.dispatchedAt)) =
      [("t1", .dispatched, some w.obs.clock.now)] ∧
    (driveRound w).obs.repo.tasks.map (fun t => (t.id, t.state)) = [("t1", .dispatched)] := by
  decide

/-- `C20_retry_dispatchErr_cancelled` (`C20.noWorkerCancelled`): the round ends with the non-retryable
`DispatchErr t1 alreadyCancelled`; nothing ran; the next round is a `Step` that blocks. -/
example :
    let w := (World.init' C05.t0).run C20.noWorkerCancelled
    World.Script (World.init' C05.t0) C20.noWorkerCancelled ∧ w.pc = .idle ∧ retryable w.ret = true ∧
    (match w.ret with | .dispatchErr t e => t.id == "t1" && e == Err.ctx | _ => false) = true ∧
    (w.obs.repo.lookup "t1").map (fun u => (u.state, u.consistent)) = some (.cancelled, true) ∧
    (match (driveRound w).ret with
      | .dispatchErr t e => t.id == "t1" && e == Err.alreadyCancelled | _ => false) = true ∧
    retryable (driveRound w).ret = false ∧ (driveRound w).log = [] ∧ (driveRound w).running = [] ∧
    (rounds 2 w).ret = .awaitingNext ∧ (rounds 2 w).log = [] := by
  decide

/-- `C20_retry_dispatchErr_removed`: no script reaches this situation (no operation removes a task);
the hypotheses are met by a world built by hand (`DispatchErr` for an id that is not stored; with the restart
request set, as `LiveInv` demands of every `DispatchErr` between two calls — D21). -/
example :
    let w : World := { World.init' C05.t0 with ret := .dispatchErr (Task.blank "gone" 0) .ctx, getNextErr := true }
    w.pc = .idle ∧ retryable w.ret = true ∧ w.getNextErr = true ∧ w.obs.repo.lookup "gone" = none ∧
    w.obs.repo.lookup "" = none ∧
    (driveRound w).ret = .dispatchErr World.zeroTask .idNotFound ∧ (driveRound w).log = [] := by
  decide

/-- Between two calls, the driver holds `TaskDone id o (some e)` with a retryable update error `e`
(`MarkAsDone` failed without effect, or the context was cancelled), and task `id` is still stored as
dispatched. ONE round (a `Retry`) records the result: the task becomes `done` (outcome nil) or `err`
with the outcome's error text, `done_at` is the current time, every other stored task is untouched, so
are hook and clock; no work function is started (the log is unchanged); the driver holds `Zero`.
FULL (no invariant is needed). -/
theorem C20_retry_taskDone_recovers (w : World) (id : String) (o : Outcome) (e : Err) (u : Task) :
    w.pc = .idle → w.ret = .taskDone id o (some e) → retryable w.ret = true →
    w.obs.repo.lookup id = some u → u.state = .dispatched →
    let w' := driveRound w
    let cur := doneRecord w.obs.clock.now (World.outcomeErr o) u
    driveRound w = afterRetryDone w id o ∧
    w'.pc = .idle ∧ w'.ret = .zero ∧ w'.log = w.log ∧ w'.running = w.running ∧
    w'.completed = w.completed ∧ w'.reported = w.reported ∧
    w'.obs.repo.lookup id = some cur ∧
    (match World.outcomeErr o with
      | none => cur.state = .done ∧ cur.err = u.err
      | some msg => cur.state = .err ∧ cur.err = msg) ∧
    cur.doneAt = some (normalize w.obs.clock.now) ∧
    (∀ id', id' ≠ id → w'.obs.repo.lookup id' = w.obs.repo.lookup id') ∧
    w'.obs.hook = w.obs.hook ∧ w'.obs.clock = w.obs.clock := by
  intro hpc hr hq hu hs
  dsimp only
  rw [round_retry_done hpc hr ((retryable_taskDone hr).1 hq) hu hs]
  refine ⟨rfl, rfl, rfl, rfl, rfl, rfl, rfl, ?_, ?_, ?_, fun id' hne => ?_, rfl, rfl⟩
  · exact (lookup_replace _ _ _ (doneRecord_id _ _)).trans (congrArg _ hu)
  · cases World.outcomeErr o <;> exact ⟨rfl, rfl⟩
  · cases World.outcomeErr o <;> rfl
  · exact (Repo.lookup_replace _ id (doneRecord_id _ _) id').trans (if_neg hne)

/-- Idempotence: the failed attempt HAD taken effect (`Fault.after` on `MarkAsDone`: the task is already
`done` / `err` and carries `done_at`). The round's `MarkAsDone` is refused with `ErrAlreadyDone`, which
`Retry` swallows: the driver holds `Zero`, and NOTHING else changes — the stored task, the repository,
hook, clock, log are as before. (`u.consistent`: C12, a done task carries `done_at`.) FULL. -/
theorem C20_retry_taskDone_idempotent (w : World) (id : String) (o : Outcome) (e : Err) (u : Task) :
    w.pc = .idle → w.ret = .taskDone id o (some e) → retryable w.ret = true →
    w.obs.repo.lookup id = some u → (u.state = .done ∨ u.state = .err) → u.consistent = true →
    driveRound w = { w with ctxDone := false, pc := .idle, ret := .zero } ∧
    (driveRound w).pc = .idle ∧ (driveRound w).ret = .zero ∧ (driveRound w).obs = w.obs ∧
    (driveRound w).obs.repo.lookup id = some u ∧ (driveRound w).log = w.log ∧
    (driveRound w).running = w.running ∧ (driveRound w).completed = w.completed ∧
    (driveRound w).reported = w.reported := by
  intro hpc hr hq hu hs hc
  have hd : u.doneAt.isSome = true := by
    unfold Task.consistent at hc
    rcases hs with hs | hs <;> simp only [hs, Bool.and_eq_true] at hc
    · exact hc.1.2
    · exact hc.2
  have hnd : u.state ≠ .dispatched := by
    rcases hs with hs | hs <;> rw [hs] <;> simp
  have h := round_retry_done_already hpc hr ((retryable_taskDone hr).1 hq) hu hnd hd
  rw [h]
  exact ⟨rfl, rfl, rfl, rfl, hu, rfl, rfl, rfl, rfl⟩

/-- run t1 to completion; `Step` receives the result -/
def C20.resultOfT1 : List Act :=
  C05.announce ++
  [.sched .beginStep, .sched .lastTimerErr, .sched (.waitWorker true),
   .sched (.markDispatched .none none), .sched (.getById .none), .complete "t1" (.err "boom"),
   .sched .beginStep, .sched .lastTimerErr, .sched (.selResult "t1")]

/-- `MarkAsDone` fails without effect -/
def C20.doneFailsBefore : List Act := C20.resultOfT1 ++ [.sched (.markDone .before)]

/-- `MarkAsDone` takes effect and then reports an error -/
def C20.doneFailsAfter : List Act := C20.resultOfT1 ++ [.sched (.markDone .after)]

/-- `C20_retry_taskDone_recovers`: reachable, meets the hypotheses; the round records the error result. -/
example :
    let w := (World.init' C05.t0).run C20.doneFailsBefore
    World.Script (World.init' C05.t0) C20.doneFailsBefore ∧ w.pc = .idle ∧ retryable w.ret = true ∧
    w.ret = .taskDone "t1" (.err "boom") (some .other) ∧
    (w.obs.repo.lookup "t1").map (·.state) = some .dispatched ∧
    (driveRound w).ret = .zero ∧ (driveRound w).log = w.log ∧ w.log.map (·.id) = ["t1"] ∧
    ((driveRound w).obs.repo.lookup "t1").map (fun u => (u.state, u.err, u.doneAt)) =
      some (.err, "boom", some w.obs.clock.now) := by
  decide

/-- `C20_retry_taskDone_idempotent`: reachable, meets the hypotheses; the round changes nothing but the
state the driver holds. -/
example :
    let w := (World.init' C05.t0).run C20.doneFailsAfter
    World.Script (World.init' C05.t0) C20.doneFailsAfter ∧ w.pc = .idle ∧ retryable w.ret = true ∧
    w.ret = .taskDone "t1" (.err "boom") (some .other) ∧
    (w.obs.repo.lookup "t1").map (fun u => (u.state, u.consistent)) = some (.err, true) ∧
    (driveRound w).ret = .zero ∧ (driveRound w).log = w.log ∧
    (driveRound w).obs.repo = w.obs.repo := by
  decide

/-- Between two calls, the driver holds `TimerUpdateError e` (the restart of the timer inside `Step` /
`Retry` failed in the hook's `GetNext`). ONE round (a `Retry`; no hook fault) stops and restarts the
timer and ends with `Zero`. The timer is started, its last error is cleared, the hook-timer invariant
holds, the repository, the time, the log are untouched, and the timer is EXACT: nothing scheduled →
nothing armed, nothing pending; head `hd` due → the fire is pending; head not due → armed exactly at
`hd.scheduledAt`, and `hd` is the trusted cached task. In particular (last clause, `C05`-style "never
late") for the head of the repository after the round a fire is pending or the timer is armed not later
than the head. FULL (`LiveInv` is used for the hook-timer invariant only). -/
theorem C20_retry_timerUpdateError_recovers (w : World) (e : Err) :
    LiveInv w → w.pc = .idle → w.ret = .timerUpdateError e →
    let w' := driveRound w
    retryable w.ret = true ∧
    driveRound w = { w with ctxDone := false, pc := .idle,
                            obs := w.obs.stopTimer.startTimer none, ret := .zero } ∧
    w'.pc = .idle ∧ w'.ret = .zero ∧ w'.log = w.log ∧ w'.running = w.running ∧
    w'.obs.repo = w.obs.repo ∧ w'.obs.clock.now = w.obs.clock.now ∧
    w'.obs.hook.started = true ∧ w'.obs.hook.lastErr = none ∧ Inv w'.obs ∧
    (w.obs.repo.getNext = none → w'.obs = restartedEmpty w.obs) ∧
    (∀ hd, w.obs.repo.getNext = some hd → hd.scheduledAt ≤ w.obs.clock.now →
      w'.obs = restartedDue w.obs hd) ∧
    (∀ hd, w.obs.repo.getNext = some hd → w.obs.clock.now < hd.scheduledAt →
      w'.obs = restartedArmed w.obs hd) ∧
    (∀ hd, w'.obs.repo.getNext = some hd →
      w'.obs.clock.pending = true ∨ ∃ d, w'.obs.clock.armed = some d ∧ d ≤ hd.scheduledAt) := by
  intro hL hpc hr
  have hI : Inv (w.obs.stopTimer.startTimer none) := restart_inv hL
  have hst := startTimer_started w.obs.stopTimer none
  have hle := startTimer_none_lastErr w.obs.stopTimer
  dsimp only
  rw [round_retry_timer hpc hr]
  dsimp only
  exact ⟨by rw [hr]; rfl, rfl, rfl, rfl, rfl, rfl, startTimer_repo _ _,
    (update_now _ none).trans (Clock.stopAndDrain_now _), hst, hle, hI,
    restart_empty, fun _ => restart_due, fun _ => restart_notDue, fun _ => hI.head_timed hst hle⟩

/-- add t1 (5 s) with a hook fault (the re-arm fails, `LastTimerUpdateError ≠ nil`); `Step` restarts the
timer, the restart fails again → `TimerUpdateError` -/
def C20.timerFails : List Act :=
  [.user (.add "t1" { workId := some "w", scheduledAt := some (C05.sec 5) }) (some .other),
   .sched .beginStep, .sched .lastTimerErr, .sched .stopTimer, .sched (.startTimer (some .other)),
   .sched .lastTimerErr]

/-- `C20_retry_timerUpdateError_recovers`: reachable, meets the hypotheses, with NOTHING armed although
t1 is scheduled; the round arms the timer exactly at t1 (5 s). -/
example :
    let w := (World.init' C05.t0).run C20.timerFails
    World.Script (World.init' C05.t0) C20.timerFails ∧ w.pc = .idle ∧
    w.ret = .timerUpdateError .other ∧ w.obs.clock.armed = none ∧ w.obs.clock.pending = false ∧
    w.obs.hook.lastErr = some .other ∧ w.obs.repo.getNext.map (·.id) = some "t1" ∧
    (driveRound w).ret = .zero ∧ (driveRound w).obs.clock.armed = some (C05.sec 5) ∧
    (driveRound w).obs.hook.lastErr = none ∧ (driveRound w).obs.hook.started = true ∧
    (driveRound w).obs.hook.cached.map (·.id) = some "t1" := by
  decide

/-- the stored records are consistent (C12: state, timestamps and error text agree) and carry a
non-empty id after every script -/
theorem C20_records_consistent (t0 : Time) (acts : List Act) :
    World.Script (World.init' t0) acts →
    ∀ u ∈ ((World.init' t0).run acts).obs.repo.tasks, u.consistent = true ∧ u.id ≠ "" :=
  fun hs => (ConsInv.init t0).run (LiveInv.init t0) acts hs

/-- `Retry(DispatchErr)`, TOTAL. In every world a script reaches that is between two calls and holds a
retryable `DispatchErr t e`, one round of the fair fault-free driver
  (run)     starts the work function of `t.id` — the log grows by exactly its entry, the record handed
            over is in state dispatched and is the stored one, the driver holds `Dispatched t.id` —
            and this happens iff the task is stored as scheduled or dispatched; or
  (verdict) the task was cancelled (finished, removed) meanwhile: nothing runs, nothing is written,
            and the driver holds a `DispatchErr` whose error is a repository verdict: not retryable,
            "the world says why not".
Either way the state returned is not retryable. -/
theorem C20_retry_dispatchErr_total (t0 : Time) (acts : List Act) (t : Task) (e : Err) :
    World.Script (World.init' t0) acts →
    let w := (World.init' t0).run acts
    w.pc = .idle → w.ret = .dispatchErr t e → retryable w.ret = true →
    let w' := driveRound w
    w'.pc = .idle ∧ retryable w'.ret = false ∧
    (((∃ u, w.obs.repo.lookup t.id = some u ∧ (u.state = .scheduled ∨ u.state = .dispatched)) ∧
      ∃ cur, w'.log = w.log ++ [{ id := t.id, at_ := w.obs.clock.now, task := cur }] ∧
        cur.state = .dispatched ∧ w'.obs.repo.lookup t.id = some cur ∧
        w'.ret = .dispatched t.id ∧ w'.running = w.running ++ [(t.id, cur)]) ∨
     ((¬ ∃ u, w.obs.repo.lookup t.id = some u ∧ (u.state = .scheduled ∨ u.state = .dispatched)) ∧
      ∃ t' e', w'.ret = .dispatchErr t' e' ∧ World.isDefError e' = true ∧
        w'.log = w.log ∧ w'.running = w.running ∧ w'.obs = w.obs)) := by
  intro hs w hpc hr hq w'
  have hL : LiveInv w := (LiveInv.init t0).run acts hs
  have hC : ConsInv w := (ConsInv.init t0).run (LiveInv.init t0) acts hs
  exact ⟨driveRound_idle w, round_not_retryable hpc,
    round_retry_dispatchErr_total hL hC hpc hr ((retryable_dispatchErr hr).1 hq)⟩

/-- `Retry(TaskDone)`, TOTAL (any world between two calls that holds a retryable `TaskDone`): one
round starts no work function, leaves hook and clock alone, and either records the result (the task is
stored as dispatched) or writes nothing and ends with `Zero` (`ErrAlreadyDone` swallowed) or with a
repository verdict. Either way the state returned is not retryable. -/
theorem C20_retry_taskDone_total (w : World) (id : String) (o : Outcome) (e : Err) :
    w.pc = .idle → w.ret = .taskDone id o (some e) → retryable w.ret = true →
    let w' := driveRound w
    w'.pc = .idle ∧ retryable w'.ret = false ∧ w'.log = w.log ∧ w'.running = w.running ∧
    w'.obs.hook = w.obs.hook ∧ w'.obs.clock = w.obs.clock ∧
    (((∃ u, w.obs.repo.lookup id = some u ∧ u.state = .dispatched) ∧
        driveRound w = afterRetryDone w id o) ∨
     ((¬ ∃ u, w.obs.repo.lookup id = some u ∧ u.state = .dispatched) ∧
        w'.obs = w.obs ∧
        (w'.ret = .zero ∨ ∃ e', w'.ret = .taskDone id o (some e') ∧ World.isDefError e' = true))) := by
  intro hpc hr hq w'
  obtain ⟨h1, h2, h3, h4, h5, h6⟩ := round_retry_done_total hpc hr ((retryable_taskDone hr).1 hq)
  exact ⟨h1, round_not_retryable hpc, h2, h3, h4, h5, h6⟩

/-- non-vacuity of `C20_retry_dispatchErr_total`, verdict branch: see `C20.noWorkerCancelled` above;
run branch: `C20.markFails`, `C20.noWorker`. Non-vacuity of `C20_records_consistent`: -/
example :
    World.Script (World.init' C05.t0) C20.doneFailsAfter ∧
    ((World.init' C05.t0).run C20.doneFailsAfter).obs.repo.tasks.map
      (fun u => (u.id, u.state, u.consistent)) = [("t1", .err, true)] := by
  decide

/-- Invariant form. `w` satisfies the invariants (`LiveInv`, `DispInv`: both hold after every script,
`C05_round_invariants_init`) and is between two calls. After ONE round of the fair fault-free driver:
  (a) the call has returned;
  (b) NO TASK IS LOST: every task stored as dispatched has had its work function started;
  (c) the state returned does not ask for another `Retry`: the recovery is complete (if it is a
      `DispatchErr` at all, its error is a repository verdict: the world says why the task will not
      run);
  (d) a task that WAS dispatched and never started before the round (there is at most one, by the
      last clause, and then the driver's state is a retryable `DispatchErr` naming it) is started by
      exactly this round, exactly once, with exactly the stored record, and nothing in the repository,
      hook or clock is touched. -/
theorem C20_recovery_round (w : World) :
    LiveInv w → DispInv w → w.pc = .idle →
    let w' := driveRound w
    w'.pc = .idle ∧
    (∀ u ∈ w'.obs.repo.tasks, u.state = .dispatched → ∃ x ∈ w'.log, x.id = u.id) ∧
    (∀ t e, w'.ret = .dispatchErr t e → World.isDefError e = true) ∧
    retryable w'.ret = false ∧
    (∀ u ∈ w.obs.repo.tasks, u.state = .dispatched → (∀ x ∈ w.log, x.id ≠ u.id) →
      retryable w.ret = true ∧
      w'.ret = .dispatched u.id ∧
      w'.log = w.log ++ [{ id := u.id, at_ := w.obs.clock.now, task := u }] ∧
      (w'.log.filter (fun x => x.id == u.id)).length = 1 ∧
      w'.running = w.running ++ [(u.id, u)] ∧ w'.obs = w.obs ∧
      w'.completed = w.completed ∧ w'.reported = w.reported) ∧
    (∀ u1 ∈ w.obs.repo.tasks, ∀ u2 ∈ w.obs.repo.tasks,
      u1.state = .dispatched → (∀ x ∈ w.log, x.id ≠ u1.id) →
      u2.state = .dispatched → (∀ x ∈ w.log, x.id ≠ u2.id) → u1 = u2) := by
  intro hL hD hpc
  dsimp only
  have hok := hL.tasksOk
  refine ⟨driveRound_idle w, round_none_lost hL hD hpc, round_noRetryDisp hpc,
    round_not_retryable hpc, ?_, ?_⟩
  · intro u hu hs hlog
    obtain ⟨t, e, hr, hq, hid⟩ := hD.idle hpc hu hs hlog
    have hl : w.obs.repo.lookup t.id = some u := hid ▸ hok.lookup_mem hu
    rw [round_retry_skip hpc hL.retryMarks hr hq hl hs, ← hid]
    exact ⟨(retryable_dispatchErr hr).2 hq, rfl, rfl, C20rec.count_one (hid ▸ hlog) rfl, rfl, rfl, rfl, rfl⟩
  · intro u1 hu1 u2 hu2 hs1 hl1 hs2 hl2
    obtain ⟨t, e, hr, _, hid⟩ := hD.idle hpc hu1 hs1 hl1
    obtain ⟨t', e', hr', _, hid'⟩ := hD.idle hpc hu2 hs2 hl2
    rw [hr] at hr'
    cases hr'
    exact hok.eq_of_id hu1 hu2 (hid.symm.trans hid')

/-- C20, the eventual half, end to end. From ANY world that a script reaches (user mutations, time,
completions, faults before / after effect on every scheduler call, hook faults, cancelled contexts,
busy workers, `Step` / `Retry` in any order — `World.Script`; its only proviso is the driver's part of
the contract `DriverOk`: a retryable `DispatchErr` is answered with `Retry`, see
`C20_step_over_dispatchErr_now` for what happens otherwise) and that is between two calls, ONE round
of the fair fault-free driver ends with no task lost: every task stored as dispatched has had its work
function started; the one task that had not (`C20_recovery_idle_partial`) is started by this round,
once, as stored. Hence "no task is left dispatched without ever running".
PARTIAL only in the sense of `C20_recovery_partial`: `Script` contains `DriverOk`. -/
theorem C20_recovery_eventual (t0 : Time) (acts : List Act) :
    World.Script (World.init' t0) acts →
    let w := (World.init' t0).run acts
    w.pc = .idle →
    let w' := driveRound w
    w'.pc = .idle ∧
    (∀ u ∈ w'.obs.repo.tasks, u.state = .dispatched → ∃ x ∈ w'.log, x.id = u.id) ∧
    (∀ t e, w'.ret = .dispatchErr t e → World.isDefError e = true) ∧
    retryable w'.ret = false ∧
    (∀ u ∈ w.obs.repo.tasks, u.state = .dispatched → (∀ x ∈ w.log, x.id ≠ u.id) →
      retryable w.ret = true ∧
      w'.ret = .dispatched u.id ∧
      w'.log = w.log ++ [{ id := u.id, at_ := w.obs.clock.now, task := u }] ∧
      (w'.log.filter (fun x => x.id == u.id)).length = 1 ∧
      w'.running = w.running ++ [(u.id, u)] ∧ w'.obs = w.obs ∧
      w'.completed = w.completed ∧ w'.reported = w.reported) ∧
    (∀ u1 ∈ w.obs.repo.tasks, ∀ u2 ∈ w.obs.repo.tasks,
      u1.state = .dispatched → (∀ x ∈ w.log, x.id ≠ u1.id) →
      u2.state = .dispatched → (∀ x ∈ w.log, x.id ≠ u2.id) → u1 = u2) := by
  intro hs w hpc
  obtain ⟨hL, _, hD⟩ := C05_round_invariants_init t0 acts hs
  exact C20_recovery_round w hL hD hpc

/-- ... and it stays that way: after every further round of the fair fault-free driver (the rounds that
run the remaining scheduled tasks, record results, ...), again no task is dispatched without having
been started. -/
theorem C20_recovery_eventual_rounds (t0 : Time) (acts : List Act) (n : Nat) :
    World.Script (World.init' t0) acts →
    let w := (World.init' t0).run acts
    w.pc = .idle →
    (rounds (n + 1) w).pc = .idle ∧
    ∀ u ∈ (rounds (n + 1) w).obs.repo.tasks, u.state = .dispatched →
      ∃ x ∈ (rounds (n + 1) w).log, x.id = u.id := by
  intro hs w hpc
  obtain ⟨hL, hS, hD⟩ := C05_round_invariants_init t0 acts hs
  exact ⟨(rounds_invariants hL hS hD hpc (n + 1)).2.2.2, rounds_none_lost hL hS hD hpc n⟩

/-- `C20_recovery_eventual` on `C20.markFails` (reachable, between two calls, t1 dispatched and never
started, `DispatchErr t1 other`): after one round t1 is started; after two rounds its result is
recorded, with the work function run once; the third round blocks (nothing is left to do). -/
example :
    let w := (World.init' C05.t0).run C20.markFails
    World.Script (World.init' C05.t0) C20.markFails ∧ w.pc = .idle ∧
    w.obs.repo.tasks.map (fun t => (t.id, t.state)) = [("t1", .dispatched)] ∧ w.log = [] ∧
    (driveRound w).log.map (·.id) = ["t1"] ∧
    (driveRound w).obs.repo.tasks.map (fun t => (t.id, t.state)) = [("t1", .dispatched)] ∧
    (rounds 2 w).log.map (·.id) = ["t1"] ∧
    (rounds 2 w).obs.repo.tasks.map (fun t => (t.id, t.state)) = [("t1", .done)] ∧
    (rounds 3 w).ret = .awaitingNext ∧ (rounds 3 w).log.map (·.id) = ["t1"] := by
  decide

/-- the faults of `C20.faulty` (Props/C20.lean) replayed up to the `MarkAsDispatched` that fails after
its effect, on `init'`: the same end as if no failure had happened. -/
example :
    let acts : List Act :=
      [.user (.add "t1" { workId := some "w", scheduledAt := some (C05.sec 5) }) (some .other),
       .advance (C05.sec 40),
       .sched .beginStep, .sched .lastTimerErr, .sched .stopTimer, .sched (.startTimer none),
       .sched .lastTimerErr, .sched .selTimer, .sched (.getNext .before),
       .sched .beginStep, .sched .stopTimer, .sched (.startTimer none), .sched .lastTimerErr,
       .sched .selTimer, .sched (.getNext .none), .sched .nextScheduled,
       .sched .beginStep, .sched .lastTimerErr, .sched (.waitWorker false),
       .sched .beginRetry, .sched (.getById .before),
       .sched .beginRetry, .sched (.getById .none), .sched (.waitWorker true),
       .sched (.markDispatched .after none)]
    let w := (World.init' C05.t0).run acts
    World.Script (World.init' C05.t0) acts ∧ w.pc = .idle ∧ w.stuck = false ∧
    w.obs.repo.tasks.map (fun t => (t.id, t.state)) = [("t1", .dispatched)] ∧ w.log = [] ∧
    (rounds 2 w).log.map (fun x => (x.id, x.task.state)) = [("t1", .dispatched)] ∧
    (rounds 2 w).obs.repo.tasks.map (fun t => (t.id, t.state)) = [("t1", .done)] ∧
    (rounds 2 w).stuck = false := by
  decide

end Gk
