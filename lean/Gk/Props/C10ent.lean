/-
C10ent — linearizability of the SQL (ent) repository's two-statement protocol.

`Gk.Ent` (Gk/EntProto.lean) models N concurrent clients of /repo/repository/ent/repository.go over one
shared database: a conditional `UPDATE … WHERE id = ? AND state = <required>` and, only when it misses,
a separate later `GetById` from which the refusal is classified (`MarkAsDone` retries when that read
shows the task dispatched).  Statements of other clients run in between.
-/
import Gk.Proofs.EntProto
import Gk.Props.C10
namespace Gk
open Gk.Lin Gk.Ent

/-- A first statement that decides the call (a hit of the conditional UPDATE — "hit" is defined from the
guard `row exists ∧ state = required` in `Ent.stmt` —, the parameter check / read-only path of
`UpdateById`, or a single-statement operation) has exactly the effect and the result of `Repo.step`
on the database it ran against. -/
theorem C10ent_hit_is_step {r r' : Repo} (h : r.WF) {now : Time} {op : Op} {out : Out}
    (hs : Ent.stmt r now op = .fin r' out) : Repo.step {} r now op = (r', out) :=
  stmt_fin_spec h hs

/-- The conditional UPDATE hits exactly when its guard holds, and then sets what `Repo.step` sets. -/
theorem C10ent_hit_iff_guard (r : Repo) (now : Time) (id : String) (e : Option String) :
    (Ent.stmt r now (.cancel id) =
      if Ent.guard r id .scheduled then .fin (r.replace id (setCancel now)) .ok else .miss) ∧
    (Ent.stmt r now (.dispatch id) =
      if Ent.guard r id .scheduled then .fin (r.replace id (setDispatch now)) .ok else .miss) ∧
    (Ent.stmt r now (.done id e) =
      if Ent.guard r id .dispatched then .fin (r.replace id (setDone now e)) .ok else .miss) ∧
    (Ent.guard r id .scheduled = true → ∀ f, r.mutateScheduled id f = (r.replace id f, .ok)) ∧
    (Ent.guard r id .dispatched = true →
      Repo.step {} r now (.done id e) = (r.replace id (setDone now e), .ok)) :=
  ⟨rfl, rfl, rfl, fun h f => mutate_hit f h, done_hit now e⟩

/-- Pointwise atomicity of miss + later classification.  The conditional statement of
cancel / dispatch / update missed in `s1` on an id that EXISTS in `s1`; `s2` is reached from `s1` by any
lifecycle steps at any clock readings.  Then the classifying read in `s2` yields a result (no retry),
this result is what `Repo.step` returns in `s2`, and `Repo.step` leaves `s2` unchanged: the two-statement
operation is the atomic operation executed at the instant of its second statement. -/
theorem C10ent_miss_then_classify {s1 : Repo} {now1 : Time} {op : Op} {id : String}
    (hop : op = .cancel id ∨ op = .dispatch id ∨ ∃ p, op = .update id p)
    (hmiss : Ent.stmt s1 now1 op = .miss) (hex : (s1.lookup id).isSome = true)
    (mid : List (Time × Op)) (hlc : ∀ x ∈ mid, x.2.isLifecycle = true) (now : Time) :
    ∃ out, Ent.classify (Repo.run {} s1 mid) op = some out ∧
      Repo.step {} (Repo.run {} s1 mid) now op = (Repo.run {} s1 mid, out) := by
  have hm := stmt_miss_spec hmiss
  have keep := fun hg => (run_keeps_miss mid hlc hex hg).2
  rcases hop with rfl | rfl | ⟨p, rfl⟩
  · exact ⟨_, rfl, classify_spec (op := .cancel id) (keep hm) now rfl⟩
  · exact ⟨_, rfl, classify_spec (op := .dispatch id) (keep hm) now rfl⟩
  · exact ⟨_, rfl, classify_spec (op := .update id p) ⟨hm.1, keep hm.2⟩ now rfl⟩

/-- The same for `MarkAsDone`, with no hypothesis at all on the state at the miss: whenever the
classifying read does not show the task dispatched, its result is what `Repo.step` returns in that state,
and `Repo.step` changes nothing. -/
theorem C10ent_miss_then_classify_done (s2 : Repo) (id : String) (e : Option String) (now : Time)
    {out : Out} (hc : Ent.classify s2 (.done id e) = some out) :
    Repo.step {} s2 now (.done id e) = (s2, out) :=
  classify_spec (op := .done id e) trivial now hc

/-- `MarkAsDone` goes back to its conditional UPDATE exactly when the read shows the task dispatched,
i.e. when the guard of that UPDATE holds in the state that was read. -/
theorem C10ent_done_retry_iff (s2 : Repo) (id : String) (e : Option String) :
    Ent.classify s2 (.done id e) = none ↔ Ent.guard s2 id .dispatched = true := by
  rw [classify_done]
  cases Ent.guard s2 id .dispatched <;> simp

namespace ExEnt

def p : Param := { workId := some "w", scheduledAt := some 5000000 }

/-- the database after `add "a"` at 1 ms -/
def s2 : Repo := (Repo.step {} {} 1000000 (.add "a" p)).1

/-- `Cancel("a")` misses on the empty database; then `AddTask` inserts that very id; then `Cancel`
classifies, finds a scheduled task and reports success; a later `MarkAsDispatched("a")` succeeds too. -/
def badRun : List Act :=
  [.call 0 1000000 (.cancel "a"), .stmt 0,
   .call 1 1000000 (.add "a" p), .stmt 1,
   .classify 0 1000000, .ret 0, .ret 1,
   .call 0 2000000 (.dispatch "a"), .stmt 0, .ret 0]

end ExEnt

/-- Counterexample: without "the id exists at the miss" the classification is not the atomic operation.
`Cancel("a")` misses in `{}` (unknown id), `add "a"` runs in between, the classifying read sees a
scheduled task and reports success (`errKindMutate` of a scheduled task is empty), although nothing was
cancelled — the atomic `Repo.step` at that instant would have cancelled the task.  At the level of the
system: the run `badRun` (which violates `FreshAdds`) is quiescent and its history is NOT linearizable. -/
theorem C10ent_needs_known_id :
    Ent.stmt {} 1000000 (.cancel "a") = .miss ∧
    ({} : Repo).lookup "a" = none ∧
    Ent.classify ExEnt.s2 (.cancel "a") = some .ok ∧
    (ExEnt.s2.lookup "a").map (·.state) = some .scheduled ∧
    (Repo.step {} ExEnt.s2 1000000 (.cancel "a")).1 ≠ ExEnt.s2 ∧
    (Ent.run (Ent.init 2) ExEnt.badRun).Quiescent ∧
    ¬ FreshAdds (Ent.init 2) ExEnt.badRun ∧
    (Ent.run (Ent.init 2) ExEnt.badRun).history.map (·.out) =
      [.ok, .task (ExEnt.p.normalize.toTask "a" 1000000), .ok] ∧
    linearizable sameExact {} (Ent.run (Ent.init 2) ExEnt.badRun).history = false := by
  refine ⟨by decide, by decide, by decide, by decide, by decide, by decide, by decide, by decide,
    by decide⟩

/-- Every run from the initial state whose INSERTs use fresh ids: the returned calls, together with the
calls whose result is already decided but which have not returned (`pending`, completed with a return at
the current stamp; calls that have not been decided yet have had no effect and are dropped), form a
linearizable history. -/
theorem C10ent_linearizable_prefix (n : Nat) (acts : List Act) (hf : FreshAdds (Ent.init n) acts) :
    linearizable sameExact {}
      ((Ent.run (Ent.init n) acts).history ++ (Ent.run (Ent.init n) acts).pending.map (·.1)) = true := by
  obtain ⟨σ, h⟩ := (Inv.init n).run acts hf
  obtain ⟨σL, hp, hsec, hrep, -, -⟩ := h.witness
  exact C10_atomic_sections_gen hrep hsec hp.symm

/-- MAIN.  `n` clients run the two-statement protocol of the SQL repository in any interleaving `acts`
from the empty database; ids of `AddTask` are fresh (`FreshAdds`); at the end every client is idle.
Then the history of the completed calls is linearizable with respect to `Repo.step`. -/
theorem C10ent_linearizable (n : Nat) (acts : List Act) (hf : FreshAdds (Ent.init n) acts)
    (hq : (Ent.run (Ent.init n) acts).Quiescent) :
    linearizable sameExact {} (Ent.run (Ent.init n) acts).history = true := by
  have := C10ent_linearizable_prefix n acts hf
  rwa [pending_nil_of_quiescent hq, List.map_nil, List.append_nil] at this

/-- The witness behind `C10ent_linearizable`: an order `σ` of the completed calls (the order of their
deciding statements — the hit, or the final classifying read) whose deciding statements ran at strictly
increasing stamps inside the calls' intervals (`AtomicSections`), on which `Repo.step` returns the
reported results, and whose sequential execution ends in the database the concurrent run ended in. -/
theorem C10ent_sequential_witness (n : Nat) (acts : List Act) (hf : FreshAdds (Ent.init n) acts)
    (hq : (Ent.run (Ent.init n) acts).Quiescent) :
    ∃ σ : List LOp, σ.Perm (Ent.run (Ent.init n) acts).history ∧ AtomicSections σ ∧
      replays sameExact {} σ = true ∧
      Repo.run {} {} (σ.map fun o => (o.now, o.op)) = (Ent.run (Ent.init n) acts).repo := by
  obtain ⟨σ, h⟩ := (Inv.init n).run acts hf
  obtain ⟨σL, hp, hsec, hrep, -, hfin⟩ := h.witness
  rw [pending_nil_of_quiescent hq, List.map_nil, List.append_nil] at hp
  exact ⟨σL, hp, hsec, hrep, hfin⟩

/-- In such a run no two calls among `Cancel(id)` / `MarkAsDispatched(id)` of the same task both
return ok (any two positions of the history). -/
theorem C10ent_conflict (n : Nat) (acts : List Act) (hf : FreshAdds (Ent.init n) acts)
    (hq : (Ent.run (Ent.init n) acts).Quiescent) :
    (Ent.run (Ent.init n) acts).history.Pairwise fun a b =>
      ∀ id, (a.op = .cancel id ∨ a.op = .dispatch id) → (b.op = .cancel id ∨ b.op = .dispatch id) →
        ¬ (a.out = .ok ∧ b.out = .ok) := by
  obtain ⟨σ, h⟩ := (Inv.init n).run acts hf
  obtain ⟨σL, hp, -, hrep, hlc, -⟩ := h.witness
  rw [pending_nil_of_quiescent hq, List.map_nil, List.append_nil] at hp
  exact (List.Perm.pairwise_iff NoConflict.symm hp).mp
    (replays_no_conflict σL {} Marked_empty hlc hrep)

namespace ExEnt

/-- `add "a"` by client 0; then client 0 cancels and client 1 dispatches "a" concurrently: client 0's
conditional UPDATE would still hit at stamp 5, but client 1's runs first (stamp 5), client 0's statement
(stamp 6) misses, client 1 returns, and only then client 0 classifies (stamp 8) and returns. -/
def goodRun : List Act :=
  [.call 0 1000000 (.add "a" p), .stmt 0, .ret 0,
   .call 0 2000000 (.cancel "a"), .call 1 2000000 (.dispatch "a"),
   .stmt 1, .stmt 0, .ret 1, .classify 0 2000000, .ret 0]

/-- `MarkAsDone` misses while the task is still scheduled, the dispatch lands in between, the classifying
read shows it dispatched, `MarkAsDone` retries and hits. -/
def doneRun : List Act :=
  [.call 0 1000000 (.add "a" p), .stmt 0, .ret 0,
   .call 0 2000000 (.done "a" none), .stmt 0,
   .call 1 2000000 (.dispatch "a"), .stmt 1,
   .classify 0 3000000, .stmt 0, .ret 0, .ret 1]

end ExEnt

/-- The hypotheses of `C10ent_linearizable` hold of a run in which a statement misses, another client's
statement has landed in between and the classification happens afterwards; the refusal is the one of the
state at the classification (`alreadyDispatched`), and the checker accepts the history. -/
example :
    FreshAdds (Ent.init 2) ExEnt.goodRun ∧ (Ent.run (Ent.init 2) ExEnt.goodRun).Quiescent ∧
    (Ent.run (Ent.init 2) ExEnt.goodRun).history.map (fun o => (o.call, o.ret, o.out)) =
      [(0, 2, .task (ExEnt.p.normalize.toTask "a" 1000000)), (4, 7, .ok),
       (3, 9, .err .alreadyDispatched)] ∧
    linearizable sameExact {} (Ent.run (Ent.init 2) ExEnt.goodRun).history = true := by
  refine ⟨by decide, by decide, by decide, ?_⟩
  exact C10ent_linearizable 2 ExEnt.goodRun (by decide) (by decide)

/-- The retry loop of `MarkAsDone`: both the dispatch and the done succeed, linearized dispatch first;
the done is stamped with the clock reading of its second iteration. -/
example :
    FreshAdds (Ent.init 2) ExEnt.doneRun ∧ (Ent.run (Ent.init 2) ExEnt.doneRun).Quiescent ∧
    (Ent.run (Ent.init 2) ExEnt.doneRun).history.map (fun o => (o.call, o.ret, o.out)) =
      [(0, 2, .task (ExEnt.p.normalize.toTask "a" 1000000)), (3, 9, .ok), (5, 10, .ok)] ∧
    (Ent.run (Ent.init 2) ExEnt.doneRun).repo.tasks.map (fun t => (t.state, t.doneAt)) =
      [(.done, some 3000000)] ∧
    linearizable sameExact {} (Ent.run (Ent.init 2) ExEnt.doneRun).history = true := by
  refine ⟨by decide, by decide, by decide, by decide, ?_⟩
  exact C10ent_linearizable 2 ExEnt.doneRun (by decide) (by decide)

/-- A non-quiescent prefix: client 1's dispatch is decided but has not returned; it is part of the
completed history of `C10ent_linearizable_prefix`. -/
example :
    ¬ (Ent.run (Ent.init 2) (ExEnt.goodRun.take 7)).Quiescent ∧
    ((Ent.run (Ent.init 2) (ExEnt.goodRun.take 7)).pending.map fun x => (x.1.call, x.1.ret, x.1.out, x.2)) =
      [(4, 7, .ok, 5)] := by
  refine ⟨by decide, by decide⟩

end Gk
