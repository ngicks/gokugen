/-
Tie theorems, `repository/ent/repository.go`: `AddTask`, `GetById`, `Cancel`, `MarkAsDispatched`, `MarkAsDone`, `UpdateById` as generated from
the CURRENT Go source (Gk/Gen/Ent.lean) issue exactly the statements of the two-statement protocol M13
(Gk/EntProto.lean): the first statement is `Ent.stmt`, and only when it misses, a second statement — which sees the
table after the other clients' `env` — is classified by `Ent.classify`.  `C10ent_linearizable` is about that protocol.
-/
import Gk.Gen.Ent
import Gk.EntProto
import Gk.Props.TieMem
import Gk.Proofs.Repo
import Gk.Proofs.EntProto
namespace Gk.Tie
open Gk Gk.Gen Gk.Gen.Ent


theorem tie_mapEntToDefTask (t : Gk.Task) : mapEntToDefTask (toEntRow t) = toGen t := rfl

@[go_rt] theorem ent_IsNotFound_NotFound : Go.ent_IsNotFound Go.ent_NotFound = true := by
  simp only [Go.ent_IsNotFound, beq_self_eq_true]
@[go_rt] theorem ent_IsNotFound_none : Go.ent_IsNotFound none = false := by decide
@[go_rt] theorem isNil_NotFound : Go.isNil Go.ent_NotFound = false := rfl
@[go_rt] theorem goErrOut_ok (id : String) : goErrOut id .ok = none := rfl

/-- the receiver after one more statement that left the table as it found it / changed it to `db'` -/
def GoEnt.after (r : GoEnt) (db' : Repo) : GoEnt := { r with db := db', nstmt := r.nstmt + 1 }

/-- `r.client.Task.Get(ctx, id)`: one SELECT. -/
theorem getRow_eq (r : GoEnt) (id : String) :
    GoEnt.getRow r none id = (GoEnt.after r r.seen,
      match r.seen.lookup id with
      | some t => (toEntRow t, none)
      | none => (default, Go.ent_NotFound)) := by
  unfold GoEnt.getRow
  cases h : r.seen.lookup id <;> simp only [h, GoEnt.after]

/-- `GetById`: one SELECT. -/
theorem tie_ent_GetById (r : GoEnt) (id : String) :
    EntRepository.GetById r none id =
      (GoEnt.after r r.seen,
        (match r.seen.lookup id with | some t => toGen t | none => default),
        goErrOut id (match r.seen.lookup id with | some _ => Out.ok | none => Out.err .idNotFound)) := by
  rw [EntRepository.GetById, getRow_eq]
  cases r.seen.lookup id with
  | none => simp only [go_rt, goErrOut, kindStr, Def.IdNotFound]
  | some t => simp only [go_rt, tie_mapEntToDefTask]

/-- `builder.Exec(ctx)` of `UPDATE … WHERE id = ? AND state = s`: it hits exactly when `Ent.guard` holds. -/
theorem execUpdate_eq (r : GoEnt) {b : EntUpd} (id : String) (s : St) (hid : b.id = id)
    (hw : b.whereState = some s.name) :
    r.execUpdate b none =
      if Ent.guard r.seen id s then (GoEnt.after r (r.seen.replace id b.apply), none)
      else (GoEnt.after r r.seen, Go.ent_NotFound) := by
  subst hid
  cases h : r.seen.lookup b.id with
  | none => simp only [GoEnt.execUpdate, Ent.guard, h, GoEnt.after, Bool.false_eq_true, if_false]
  | some t => simp only [GoEnt.execUpdate, Ent.guard, h, EntUpd.guardOk, hw, name_beq, GoEnt.after]

/-- what the two-statement methods compute, in the model's terms: the first statement on the table the call finds,
and after a miss the classification of a later read (the other clients' `env` has run in between). -/
def twoPhase (r : GoEnt) (id : String) (op : Op) : GoEnt × GoError :=
  match Ent.stmt r.seen r.now op with
  | .fin db' out => (GoEnt.after r db', goErrOut id out)
  | .miss =>
    let r1 := GoEnt.after r r.seen
    (GoEnt.after r1 r1.seen, goErrOut id ((Ent.classify r1.seen op).getD .ok))

theorem getById_none {r : GoEnt} {id : String} (h : r.seen.lookup id = none) :
    EntRepository.GetById r none id = (GoEnt.after r r.seen, default, some (.repo id "id_not_found")) := by
  rw [tie_ent_GetById, h]; rfl

theorem getById_some {r : GoEnt} {id : String} {t : Gk.Task} (h : r.seen.lookup id = some t) :
    EntRepository.GetById r none id = (GoEnt.after r r.seen, toGen t, none) := by
  rw [tie_ent_GetById, h]; rfl

/-! ### Cancel, MarkAsDispatched, and the builder path of UpdateById

The tie proofs do not follow the control flow of the translated method: they rewrite what `builder.Exec` returns
(`execUpdate_eq`), split on what the two statements find (the guard; after a miss the row of the later read) and let
`simp only [go_rt]` decide every test on `err` in whatever order the Go text makes them. -/

/-- The three outcomes of a two-statement method whose UPDATE is guarded by `state = scheduled`, as values: a hit; a
miss and the later read finds no row; a miss and the later read finds the row `t`. -/
theorem twoPhase_cases (r : GoEnt) (id : String) (op : Op) (f : Gk.Task → Gk.Task)
    (hstmt : Ent.stmt r.seen r.now op =
      if Ent.guard r.seen id .scheduled then .fin (r.seen.replace id f) .ok else .miss)
    (hcl : ∀ db, Ent.classify db op = some (Ent.refusal errKindMutate (db.lookup id))) :
    (Ent.guard r.seen id .scheduled = true ∧ twoPhase r id op = (GoEnt.after r (r.seen.replace id f), none)) ∨
    (Ent.guard r.seen id .scheduled = false ∧ (GoEnt.after r r.seen).seen.lookup id = none ∧
      twoPhase r id op =
        (GoEnt.after (GoEnt.after r r.seen) (GoEnt.after r r.seen).seen, some (.repo id "id_not_found"))) ∨
    (Ent.guard r.seen id .scheduled = false ∧ ∃ t, (GoEnt.after r r.seen).seen.lookup id = some t ∧
      twoPhase r id op =
        (GoEnt.after (GoEnt.after r r.seen) (GoEnt.after r r.seen).seen, wrapKind t (errKindMutate t))) := by
  rw [twoPhase, hstmt]
  cases hg : Ent.guard r.seen id .scheduled
  · simp only [Bool.false_eq_true, if_false, hcl, Option.getD_some, false_and, true_and, false_or]
    cases h : (GoEnt.after r r.seen).seen.lookup id with
    | none => exact .inl ⟨rfl, rfl⟩
    | some t => exact .inr ⟨t, rfl, by rw [refusal_mutate t id (Repo.lookup_some h).2]; rfl⟩
  · exact .inl ⟨rfl, rfl⟩

theorem tie_ent_Cancel (r : GoEnt) (id : String) :
    EntRepository.Cancel r none id = twoPhase r id (.cancel id) := by
  unfold EntRepository.Cancel
  rw [execUpdate_eq r id .scheduled]
  · rcases twoPhase_cases r id (.cancel id) (Ent.setCancel r.now) rfl (fun _ => rfl) with
      ⟨hg, h⟩ | ⟨hg, hl, h⟩ | ⟨hg, t, hl, h⟩ <;> rw [h]
    · simp only [hg, go_rt]
      refine congrArg (fun f => (GoEnt.after r (r.seen.replace id f), none)) (funext fun t => ?_)
      simp [EntUpd.apply, EntUpd.SetCancelledAt, EntUpd.SetState, EntUpd.Where, EntTaskClient.UpdateOneID,
        Ent.setCancel, EntTask.StateCancelled, stOf, tie_NormalizeTime, GoEnt.clock]
    · simp only [hg, go_rt, getById_none hl]
    · simp only [hg, go_rt, getById_some hl, tie_ErrKindCancel]
  · rfl
  · rfl

theorem tie_ent_MarkAsDispatched (r : GoEnt) (id : String) :
    EntRepository.MarkAsDispatched r none id = twoPhase r id (.dispatch id) := by
  unfold EntRepository.MarkAsDispatched
  rw [execUpdate_eq r id .scheduled]
  · rcases twoPhase_cases r id (.dispatch id) (Ent.setDispatch r.now) rfl (fun _ => rfl) with
      ⟨hg, h⟩ | ⟨hg, hl, h⟩ | ⟨hg, t, hl, h⟩ <;> rw [h]
    · simp only [hg, go_rt]
      refine congrArg (fun f => (GoEnt.after r (r.seen.replace id f), none)) (funext fun t => ?_)
      simp [EntUpd.apply, EntUpd.SetDispatchedAt, EntUpd.SetState, EntUpd.Where, EntTaskClient.UpdateOneID,
        Ent.setDispatch, EntTask.StateDispatched, stOf, tie_NormalizeTime, GoEnt.clock]
    · simp only [hg, go_rt, getById_none hl]
    · simp only [hg, go_rt, getById_some hl, tie_ErrKindMarkAsDispatch]
  · rfl
  · rfl

theorem fakeTask_eq : Ent.fakeTask = toGen Gk.fakeTask := by rfl

theorem tie_ent_validForUpdate (p : Gk.Param) : ((Ent.fakeTask).Update (toGenP p)).IsValid = p.validForUpdate := by
  rw [fakeTask_eq, tie_Task_Update, tie_IsValid]; rfl

/-- `if m == nil { m = map[string]string{} }`: a nil map and an empty one are the same value here -/
theorem nilMap_eq (m : SMap) : (if Go.isNil m = true then Go.emptyMap else m) = m := by
  cases m <;> rfl

theorem if_SetWorkID (b : EntUpd) (o : Option String) :
    (if o.IsSome = true then b.SetWorkID o.Value else b) = { b with workId := o.or b.workId } := by
  cases o <;> rfl
theorem if_SetParam (b : EntUpd) (o : Option SMap) :
    (if o.IsSome = true then b.SetParam (if Go.isNil o.Value = true then Go.emptyMap else o.Value) else b) =
      { b with param := o.or b.param } := by
  rw [nilMap_eq]; cases o <;> rfl
theorem if_SetMeta (b : EntUpd) (o : Option SMap) :
    (if o.IsSome = true then b.SetMeta (if Go.isNil o.Value = true then Go.emptyMap else o.Value) else b) =
      { b with meta_ := o.or b.meta_ } := by
  rw [nilMap_eq]; cases o <;> rfl
theorem if_SetPriority (b : EntUpd) (o : Option Int) :
    (if o.IsSome = true then b.SetPriority o.Value else b) = { b with priority := o.or b.priority } := by
  cases o <;> rfl
theorem if_SetScheduledAt (b : EntUpd) (o : Option Time) :
    (if o.IsSome = true then b.SetScheduledAt o.Value else b) = { b with scheduledAt := o.or b.scheduledAt } := by
  cases o <;> rfl
theorem if_SetDeadline (b : EntUpd) (o : Option (Option Time)) :
    (if o.IsSome = true then (if o.Value.IsSome = true then b.SetDeadline o.Value.Value else b.ClearDeadline) else b) =
      { b with deadline := o.or b.deadline } := by
  rcases o with _ | _ | _ <;> rfl

def updOf (id : String) (ws : Option String) (q : Gk.Param) : EntUpd :=
  { id := id, whereState := ws, workId := q.workId, param := q.param, priority := q.priority,
    scheduledAt := q.scheduledAt, deadline := q.deadline, meta_ := q.meta_ }

/-- The SET clause of `UpdateById` on a row whose times are normalised is `Task.Update(param.Normalize())`. -/
theorem updApply (q : Gk.Param) (t : Gk.Task) (ht : t.timesNormalized = true)
    (hq : q.normalize = q) (b : EntUpd) (hb : b = updOf b.id b.whereState q) :
    b.apply t = t.update q := by
  rw [hb]; unfold updOf
  obtain ⟨w, pr, pa, me, s, d⟩ := q
  simp only [Param.normalize, Param.mk.injEq, true_and] at hq
  obtain ⟨hs, hd⟩ := hq
  simp only [Task.timesNormalized, Bool.and_eq_true, isNorm_iff, optNorm_iff] at ht
  obtain ⟨⟨⟨⟨⟨h1, h2⟩, h3⟩, h4⟩, h5⟩, h6⟩ := ht
  obtain ⟨a1, a2, a3, a4, a5, a6, a7, a8, a9, a10, a11, a12, a13⟩ := t
  simp only [EntUpd.apply, Task.update, Task.normalizeTime] at *
  cases s <;> cases d <;> simp_all

theorem tie_ent_UpdateById (r : GoEnt) (id : String) (p : Gk.Param)
    (hn : ∀ t ∈ r.seen.tasks, t.timesNormalized = true) :
    EntRepository.UpdateById r none id (toGenP p) =
      if p.validForUpdate then twoPhase r id (.update id p) else (r, goErrOut id (.err .invalidTask)) := by
  unfold EntRepository.UpdateById
  rw [tie_ent_validForUpdate]
  cases hv : p.validForUpdate with
  | false => rfl
  | true =>
    have hc : ((toGenP p.normalize).WorkId.IsNone && (toGenP p.normalize).Param.IsNone &&
                    (toGenP p.normalize).Priority.IsNone &&
                  (toGenP p.normalize).ScheduledAt.IsNone &&
                (toGenP p.normalize).Deadline.IsNone &&
              (toGenP p.normalize).Meta.IsNone) = Ent.nothingToSet p := rfl
    simp only [Bool.not_true, Bool.false_eq_true, if_false, tie_Param_Normalize, hc, if_SetWorkID, if_SetParam,
      if_SetMeta, if_SetPriority, if_SetScheduledAt, if_SetDeadline]
    by_cases hnts : Ent.nothingToSet p = true
    · -- read-only path
      rw [twoPhase]
      simp only [Ent.stmt, hv, hnts, go_rt]
      cases h : r.seen.lookup id with
      | none => simp only [getById_none h, go_rt]; rfl
      | some t =>
        by_cases hs : t.state = .scheduled
        · simp only [getById_some h, go_rt, hs, bne_self_eq_false, beq_self_eq_true]
        · simp only [getById_some h, go_rt, bne_iff_ne.mpr hs, beq_eq_false_iff_ne.mpr hs, tie_ErrKindUpdate,
            refusal_mutate t id (Repo.lookup_some h).2, Ent.refusal]
          rfl
    · have hstmt : Ent.stmt r.seen r.now (.update id p) =
          if Ent.guard r.seen id .scheduled then .fin (r.seen.replace id (Ent.setUpdate p)) .ok else .miss := by
        simp only [Ent.stmt, hv, hnts, go_rt]
      simp only [hnts, go_rt]
      rw [execUpdate_eq r id .scheduled]
      · rcases twoPhase_cases r id (.update id p) (Ent.setUpdate p) hstmt (fun _ => rfl) with
          ⟨hg, h⟩ | ⟨hg, hl, h⟩ | ⟨hg, t, hl, h⟩ <;> rw [h]
        · simp only [hg, go_rt]
          refine congrArg (fun db => (GoEnt.after r db, none)) (Repo.replace_congr fun t ht => ?_)
          refine updApply p.normalize t (hn t ht) p.normalize_idem _ ?_
          simp [toGenP, EntUpd.Where, EntTaskClient.UpdateOneID, updOf]
        · simp only [hg, go_rt, getById_none hl]
        · simp only [hg, go_rt, getById_some hl, tie_ErrKindUpdate]
      · rfl
      · rfl

theorem saveCreate_fresh {r : GoEnt} {b : EntCreate} (h : r.seen.lookup b.row.id = none) :
    GoEnt.saveCreate r b none = (GoEnt.after r { tasks := r.seen.tasks ++ [b.row] }, toEntRow b.row, none) := by
  simp only [GoEnt.saveCreate, h, GoEnt.after]

/-- `AddTask`: validation, then ONE INSERT of exactly the task `Repo.step` stores (fresh id). -/
theorem tie_ent_AddTask (r : GoEnt) (p : Gk.Param) (hfresh : r.seen.lookup r.nextId = none) :
    EntRepository.AddTask r none (toGenP p) =
      match Repo.step {} r.seen r.now (.add r.nextId p) with
      | (db', .task t) => (GoEnt.after r db', toGen t, none)
      | _ => (r, default, goErrOut "" (.err .invalidTask)) := by
  simp only [EntRepository.AddTask, GoEnt.randStrGen, GoEnt.clock, tie_Param_ToTask, tie_IsValid, Repo.step,
    toTask_normalize]
  cases hv : (p.toTask r.nextId r.now).isValid with
  | false => simp [goErrOut, Go.wrapErr, Go.def_ErrInvalidTask]
  | true =>
    simp only [Bool.not_true, Bool.false_eq_true, if_false]
    generalize hb : EntCreate.SetMeta _ _ = b
    have hrow : b.row = p.toTask r.nextId r.now := by
      subst hb
      simp only [EntCreate.SetMeta, EntCreate.SetParam, EntCreate.SetNillableDeadline, EntCreate.SetCreatedAt,
        EntCreate.SetScheduledAt, EntCreate.SetState, EntCreate.SetPriority, EntCreate.SetWorkID, EntCreate.SetID,
        EntTaskClient.Create, Go.conv, toGen, stOf_name, Option.Pointer]
      simp [Param.toTask, Task.update, Task.normalizeTime, Task.blank]
      exact ⟨nilMap_eq _, nilMap_eq _⟩
    have := saveCreate_fresh (r := r) (b := b) (by rw [hrow, toTask_id]; exact hfresh)
    simp [this, Go.isNil, Go.IsNil.isNil, Go.nil, hrow, tie_mapEntToDefTask]

/-! ### MarkAsDone (a `for { … }` loop: `Go.forever` with fuel) -/

/-- `MarkAsDone` in the model's terms: rounds of "conditional UPDATE; on a miss, classify a later read; when that
read shows the task dispatched, go round again" — `Ent.stmt` / `Ent.classify` with the `none` (= `continue`) case. -/
def doneRounds : Nat → GoEnt → String → Option String → Option (GoEnt × GoError)
  | 0, _, _, _ => none
  | n + 1, r, id, e =>
    match Ent.stmt r.seen r.now (.done id e) with
    | .fin db' out => some (GoEnt.after r db', goErrOut id out)
    | .miss =>
      let r1 := GoEnt.after r r.seen
      match Ent.classify r1.seen (.done id e) with
      | some out => some (GoEnt.after r1 r1.seen, goErrOut id out)
      | none => doneRounds n (GoEnt.after r1 r1.seen) id e

/-- the message `MarkAsDone` records: `err.Error()` of a non-nil error -/
def doneMsg (err : GoError) : Option String := err.map fun _ => Option.Error err

/-- what a round's outcome means for the loop: `return v`, or go on with `k` -/
def iterK {σ ρ : Type} (k : σ → Option ρ) : Go.Iter σ ρ → Option ρ
  | .ret v => some v
  | .next s' => k s'

theorem forever_eq {σ ρ : Type} (f : σ → Go.Iter σ ρ) (g : Nat → σ → Option ρ) (h0 : ∀ s, g 0 s = none)
    (hs : ∀ n s, g (n + 1) s = iterK (g n) (f s)) :
    ∀ n s, Go.forever n s f = g n s := by
  intro n
  induction n with
  | zero => intro s; rw [h0]; rfl
  | succ n ih =>
    intro s
    rw [hs]
    simp only [Go.forever]
    cases f s with
    | ret v => rfl
    | next s' => exact ih s'

/-- The four outcomes of one round of `MarkAsDone`, as values: a hit; a miss and the later read finds no row; it finds
the row dispatched (go round again); it finds the row in another state. -/
theorem doneRounds_cases (n : Nat) (r : GoEnt) (id : String) (e : Option String) :
    (Ent.guard r.seen id .dispatched = true ∧
      doneRounds (n + 1) r id e = some (GoEnt.after r (r.seen.replace id (Ent.setDone r.now e)), none)) ∨
    (Ent.guard r.seen id .dispatched = false ∧ (GoEnt.after r r.seen).seen.lookup id = none ∧
      doneRounds (n + 1) r id e =
        some (GoEnt.after (GoEnt.after r r.seen) (GoEnt.after r r.seen).seen, some (.repo id "id_not_found"))) ∨
    (Ent.guard r.seen id .dispatched = false ∧ ∃ t, (GoEnt.after r r.seen).seen.lookup id = some t ∧
      ((t.state = .dispatched ∧ doneRounds (n + 1) r id e =
          doneRounds n (GoEnt.after (GoEnt.after r r.seen) (GoEnt.after r r.seen).seen) id e) ∨
        (t.state ≠ .dispatched ∧ doneRounds (n + 1) r id e =
          some (GoEnt.after (GoEnt.after r r.seen) (GoEnt.after r r.seen).seen,
            wrapKind t (errKindMarkAsDone t))))) := by
  rw [doneRounds, Ent.stmt_done]
  cases hg : Ent.guard r.seen id .dispatched
  · simp only [Bool.false_eq_true, if_false, Ent.classify, false_and, true_and, false_or]
    cases h : (GoEnt.after r r.seen).seen.lookup id with
    | none => exact .inl ⟨rfl, rfl⟩
    | some t =>
      refine .inr ⟨t, rfl, ?_⟩
      by_cases hs : t.state = .dispatched
      · exact .inl ⟨hs, by simp only [hs, beq_self_eq_true, if_true]⟩
      · refine .inr ⟨hs, ?_⟩
        simp only [beq_iff_eq, hs, if_false, Ent.refusal]
        rw [refusal_done t id (Repo.lookup_some h).2]; rfl
  · exact .inl ⟨rfl, rfl⟩

theorem tie_ent_MarkAsDone (fuel : Nat) (r : GoEnt) (id : String) (err : GoError) :
    EntRepository.MarkAsDone fuel r none id err = doneRounds fuel r id (doneMsg err) := by
  unfold EntRepository.MarkAsDone
  refine forever_eq _ (fun n r => doneRounds n r id (doneMsg err)) (fun _ => rfl) ?_ fuel r
  intro n r
  simp only []
  rw [execUpdate_eq r id .dispatched]
  · rcases doneRounds_cases n r id (doneMsg err) with
      ⟨hg, h⟩ | ⟨hg, hl, h⟩ | ⟨hg, t, hl, ⟨hs, h⟩ | ⟨hs, h⟩⟩ <;> rw [h]
    · simp only [hg, go_rt, iterK]
      refine congrArg (fun f => some (GoEnt.after r (r.seen.replace id f), none)) (funext fun t => ?_)
      cases err <;>
        simp [EntUpd.apply, EntUpd.SetDoneAt, EntUpd.SetState, EntUpd.SetErr, EntUpd.Where, EntTaskClient.UpdateOneID,
          Ent.setDone, EntTask.StateDone, EntTask.StateErr, stOf, tie_NormalizeTime, GoEnt.clock, Go.isNil,
          Go.IsNil.isNil, doneMsg]
    · simp only [hg, go_rt, getById_none hl, iterK]
    · simp only [hg, go_rt, getById_some hl, hs, beq_self_eq_true, iterK]
    · simp only [hg, go_rt, getById_some hl, beq_eq_false_iff_ne.mpr hs, tie_ErrKindMarkAsDone, iterK]
  · cases err <;> rfl
  · cases err <;> rfl

section Protocol
open Gk.Ent
def actClient : Act → Nat
  | .call c _ _ | .stmt c | .classify c _ | .ret c => c

theorem tick_other (s : Sys) (c c' : Nat) (ph : Phase) (h : c' ≠ c) : (s.tick c' ph).phases[c]? = s.phases[c]? := by
  simp only [Sys.tick]
  exact List.getElem?_set_ne h

theorem step_other (s : Sys) (a : Act) (c : Nat) (h : actClient a ≠ c) : (Ent.step s a).phases[c]? = s.phases[c]? := by
  cases a with
  | call c' now op =>
    simp only [actClient] at h
    simp only [Ent.step]
    split
    · split
      · exact tick_other s c c' _ h
      · rfl
    · rfl
  | stmt c' =>
    simp only [actClient] at h
    simp only [Ent.step]
    split
    · split
      · exact tick_other s c c' _ h
      · exact tick_other s c c' _ h
    · rfl
  | classify c' now' =>
    simp only [actClient] at h
    simp only [Ent.step]
    split
    · split
      · exact tick_other s c c' _ h
      · exact tick_other s c c' _ h
    · rfl
  | ret c' =>
    simp only [actClient] at h
    simp only [Ent.step]
    split
    · exact tick_other s c c' _ h
    · rfl

theorem run_others (acts : List Act) (c : Nat) (h : ∀ a ∈ acts, actClient a ≠ c) :
    ∀ s : Sys, (Ent.run s acts).phases[c]? = s.phases[c]? := by
  induction acts with
  | nil => intro s; rfl
  | cons a rest ih =>
    intro s
    exact (ih (fun a ha => h a (List.mem_cons_of_mem _ ha)) (Ent.step s a)).trans
      (step_other s a c (h a List.mem_cons_self))

/-- **What the translated methods compute is what the protocol M13 does for the calling client.**
Client `c` has called `op` (a conditional operation other than `MarkAsDone`); its first statement runs, then any
actions of OTHER clients, then its classifying read. The result the protocol records for `c` is the result `twoPhase`
— hence the generated Go method, by `tie_ent_Cancel / MarkAsDispatched / UpdateById` — returns when the table the
second statement finds is the one those other clients left. -/
theorem twoPhase_is_protocol (s : Sys) (c k : Nat) (now now' : Time) (op : Op) (id : String)
    (hph : s.phases[c]? = some (.called k now op)) (others : List Act) (ho : ∀ a ∈ others, actClient a ≠ c)
    (hcl : ∀ db, (Ent.classify db op).isSome = true) :
    let s2 := Ent.run (Ent.step s (.stmt c)) others
    let s3 := Ent.step s2 (.classify c now')
    let r : GoEnt := { db := s.repo, clk := fun _ => now, env := fun _ _ => s2.repo }
    ∃ out lin, s3.phases[c]? = some (.finished k now op out lin) ∧ (twoPhase r id op).2 = goErrOut id out := by
  intro s2 s3 r
  have hlt : c < s.phases.length := (List.getElem?_eq_some_iff.mp hph).1
  have hs2 : s2.phases[c]? = (Ent.step s (.stmt c)).phases[c]? := run_others others c ho _
  cases hst : Ent.stmt s.repo now op with
  | fin db' out =>
    have h1 : (Ent.step s (.stmt c)).phases[c]? = some (.finished k now op out s.clock) := by
      simp only [Ent.step, hph, hst, Sys.tick]
      simp [hlt]
    rw [h1] at hs2
    refine ⟨out, s.clock, ?_, ?_⟩
    · have : s3 = s2 := by
        show Ent.step s2 (.classify c now') = s2
        simp only [Ent.step, hs2]
      rw [this, hs2]
    · show (twoPhase r id op).2 = _
      simp only [twoPhase, r, GoEnt.seen, GoEnt.now, if_true, hst]
  | miss =>
    have h1 : (Ent.step s (.stmt c)).phases[c]? = some (.missed k now op) := by
      simp only [Ent.step, hph, hst, Sys.tick]
      simp [hlt]
    rw [h1] at hs2
    have hlt2 : c < s2.phases.length := (List.getElem?_eq_some_iff.mp hs2).1
    obtain ⟨out, hout⟩ := Option.isSome_iff_exists.mp (hcl s2.repo)
    refine ⟨out, s2.clock, ?_, ?_⟩
    · show (Ent.step s2 (.classify c now')).phases[c]? = _
      simp only [Ent.step, hs2, hout, Sys.tick]
      simp [hlt2]
    · show (twoPhase r id op).2 = _
      simp [twoPhase, r, GoEnt.seen, GoEnt.now, hst, GoEnt.after, hout]

end Protocol

/-- **Sequential use: the generated ent methods are `Repo.step`.** With no other client between the statements
(`env = id`) what `Cancel` / `MarkAsDispatched` / `UpdateById` (by `tie_ent_*` = `twoPhase`) leave in the table and
return is the atomic operation of the sequential specification — the same `Repo.step` the in-memory repository
refines (`tie_mem_*`, `Mem_refines_Spec`): "both repository implementations behave identically". -/
theorem twoPhase_sequential (r : GoEnt) (id : String) (op : Op) (hwf : r.db.WF)
    (h0 : r.nstmt = 0) (hseq : r.env = fun _ => _root_.id)
    (hop : (∃ p, op = .update id p) ∨ op = .cancel id ∨ op = .dispatch id) :
    (twoPhase r id op).1.db = (Repo.step {} r.db r.now op).1 ∧
      (twoPhase r id op).2 = goErrOut id (Repo.step {} r.db r.now op).2 := by
  have hseen : r.seen = r.db := by simp [GoEnt.seen, h0]
  have hseen1 : ∀ db, (GoEnt.after r db).seen = db := by
    intro db; simp [GoEnt.seen, GoEnt.after, hseq]
  simp only [twoPhase, hseen, hseen1]
  cases hs : Ent.stmt r.db r.now op with
  | fin db' out =>
    have := Ent.stmt_fin_spec hwf hs
    simp [this, GoEnt.after]
  | miss =>
    have hm := Ent.stmt_miss_spec hs
    have hcl : ∃ out, Ent.classify r.db op = some out := by
      rcases hop with ⟨p, rfl⟩ | rfl | rfl <;> exact ⟨_, rfl⟩
    obtain ⟨out, hout⟩ := hcl
    have := Ent.classify_spec hm r.now hout
    simp [this, hout, GoEnt.after]

/-! ### non-vacuity: the generated `Cancel` evaluated on a miss and on a hit -/

def exTask (st : St) : Gk.Task :=
  { id := "a", workId := "w", priority := 0, state := st, err := "", param := [], meta_ := [],
    scheduledAt := 1000000, createdAt := 1000000, deadline := none, cancelledAt := none,
    dispatchedAt := (if st == .dispatched then some 2000000 else none), doneAt := none }

/-- the row is `dispatched` when the UPDATE runs: a miss, and the classifying read finds it `dispatched` —
`Cancel` reports `already_dispatched`. -/
example : (EntRepository.Cancel { db := { tasks := [exTask .dispatched] }, clk := fun _ => 5000000 } none "a").2 =
    some (.repo "a" "already_dispatched") := by rfl

/-- the row is `scheduled`: one statement, the row is cancelled at the normalised clock reading. -/
example : ((EntRepository.Cancel { db := { tasks := [exTask .scheduled] }, clk := fun _ => 5000001 } none "a").1.db.lookup "a").map
    (fun t => (t.state, t.cancelledAt)) = some (.cancelled, some 5000000) := by rfl

/-- what the other clients may do between two statements: any finite sequence of lifecycle operations -/
def lifeRun (ops : List (Time × Op)) (db : Repo) : Repo :=
  ops.foldl (fun r p => (Repo.step {} r p.1 p.2).1) db

/-- The other clients only perform lifecycle operations of the repository (`Ent.lifecycle`: add / get / update / cancel /
dispatch / done / find / next — everything the scheduler and the dispatcher call). `Ent.lifecycle` EXCLUDES the recovery
operations `.revert` (dispatched → scheduled!), `.cancelDispatched` and `.deleteEnded`, and that is exactly right here:
with `.revert` allowed a task can become `dispatched` again and again and `MarkAsDone` can be sent round its loop any
number of times (`exRevertEnv` below). -/
def LifecycleEnv (env : Nat → Repo → Repo) : Prop :=
  ∀ n, ∃ ops : List (Time × Op), (∀ p ∈ ops, Ent.lifecycle p.2 = true) ∧ env n = lifeRun ops

/-- The monotonicity fact behind termination, along a lifecycle run: a stored id stays stored; a task that is not
`scheduled` keeps its state, except that a `dispatched` one may become `done` / `err`. In particular a task never
becomes `dispatched` unless it was `scheduled` immediately before, and `done` / `err` / `cancelled` are final.
(No `Repo.WF` and no "nobody adds this id" hypothesis: `Repo.lookup` is the FIRST row with the key and an insertion
appends, so a row that is stored stays the row `lookup` finds.) -/
theorem lookup_lifeRun (ops : List (Time × Op)) (hl : ∀ p ∈ ops, Ent.lifecycle p.2 = true) :
    ∀ {db : Repo} {id : String} {t : Gk.Task}, db.lookup id = some t → t.state ≠ .scheduled →
    ∃ t', (lifeRun ops db).lookup id = some t' ∧
      (t'.state = t.state ∨ (t.state = .dispatched ∧ (t'.state = .done ∨ t'.state = .err))) := by
  intro db id t
  rw [lifeRun, ← Repo.run_eq_foldl]
  exact Ent.lookup_run ops hl

/-- after a statement the next one sees what the other clients made of the table this one left -/
theorem seen_after (r : GoEnt) (db : Repo) : (GoEnt.after r db).seen = r.env (r.nstmt + 1) db := by
  simp [GoEnt.seen, GoEnt.after]

/-- a round that finds the task `dispatched`, `done` or `err` is the last one -/
theorem doneRounds_last (n : Nat) (r : GoEnt) (id : String) (e : Option String) (henv : LifecycleEnv r.env)
    (hlive : ∃ t, r.seen.lookup id = some t ∧ (t.state = .dispatched ∨ t.state = .done ∨ t.state = .err)) :
    ∃ res, doneRounds (n + 1) r id e = some res := by
  obtain ⟨t, hl, hs⟩ := hlive
  rcases doneRounds_cases n r id e with ⟨-, h⟩ | ⟨-, -, h⟩ | ⟨hg, t', hl', ⟨hs', -⟩ | ⟨-, h⟩⟩
  · exact ⟨_, h⟩
  · exact ⟨_, h⟩
  · -- the row was not `dispatched` at the UPDATE, so the later read cannot show it `dispatched`
    have hnd : t.state ≠ .dispatched := Ent.guard_eq_false.mp hg t hl
    have hns : t.state ≠ .scheduled := by
      rcases hs with h | h | h <;> rw [h] <;> decide
    obtain ⟨ops, hops, henv1⟩ := henv (r.nstmt + 1)
    obtain ⟨t'', hl'', hs''⟩ := lookup_lifeRun ops hops hl hns
    rw [seen_after, henv1, hl''] at hl'
    cases hl'
    rcases hs'' with h | ⟨hd, -⟩
    · exact absurd (h ▸ hs') hnd
    · exact absurd hd hnd
  · exact ⟨_, h⟩

theorem doneRounds_mono (n : Nat) : ∀ (r : GoEnt) (id : String) (e : Option String) (res : GoEnt × GoError),
    doneRounds n r id e = some res → doneRounds (n + 1) r id e = some res := by
  induction n with
  | zero => intro r id e res h; cases h
  | succ n ih =>
    intro r id e res h
    rw [doneRounds] at h ⊢
    cases hst : Ent.stmt r.seen r.now (.done id e) with
    | fin db' out => simpa only [hst] using h
    | miss =>
      simp only [hst] at h ⊢
      cases hc : Ent.classify (GoEnt.after r r.seen).seen (.done id e) with
      | some out => simpa only [hc] using h
      | none =>
        simp only [hc] at h ⊢
        exact ih _ _ _ _ h

theorem doneRounds_mono_le {n m : Nat} (hnm : n ≤ m) {r : GoEnt} {id : String} {e : Option String}
    {res : GoEnt × GoError} (h : doneRounds n r id e = some res) : doneRounds m r id e = some res := by
  induction hnm with
  | refl => exact h
  | step _ ih => exact doneRounds_mono _ _ _ _ _ ih

/-- **`MarkAsDone`'s retry loop (introduced for D19) cannot livelock: two rounds always suffice** when the other clients
only perform lifecycle operations. Round 1: the guard `state = dispatched` holds ⇒ hit. Otherwise a miss, and the
later read shows an unknown id or a state other than `dispatched` ⇒ classified, return; or it shows `dispatched` ⇒
round 2, whose UPDATE finds the task still `dispatched` ⇒ hit, or `done` / `err` ⇒ miss, and then the classifying
read still finds `done` / `err` ⇒ return.
The ONLY hypothesis is `LifecycleEnv`: neither `r.nstmt = 0`, nor `r.db.WF`, nor freshness of `id` (nobody adds a task
with this id meanwhile) is needed — an id that is unknown at the read returns `id_not_found` at once, and an id that is
stored can not be shadowed by a later insertion (`lookup_lifeRun`). -/
theorem doneRounds_terminates (r : GoEnt) (id : String) (e : Option String) (henv : LifecycleEnv r.env) :
    ∃ res, doneRounds 2 r id e = some res := by
  rcases doneRounds_cases 1 r id e with ⟨-, h⟩ | ⟨-, -, h⟩ | ⟨-, t1, hl1, ⟨hs1, h⟩ | ⟨-, h⟩⟩
  · exact ⟨_, h⟩
  · exact ⟨_, h⟩
  · rw [h]
    have henv2 : LifecycleEnv (GoEnt.after (GoEnt.after r r.seen) (GoEnt.after r r.seen).seen).env := henv
    refine doneRounds_last 0 _ id e henv2 ?_
    obtain ⟨ops, hops, he⟩ := henv2 ((GoEnt.after r r.seen).nstmt + 1)
    rw [seen_after]
    have he' : (GoEnt.after r r.seen).env ((GoEnt.after r r.seen).nstmt + 1) = lifeRun ops := he
    rw [he']
    obtain ⟨t2, hl2, hs2⟩ := lookup_lifeRun ops hops hl1 (by rw [hs1]; decide)
    refine ⟨t2, hl2, ?_⟩
    rcases hs2 with h | ⟨_, h | h⟩
    · left; rw [h]; exact hs1
    · right; left; exact h
    · right; right; exact h
  · exact ⟨_, h⟩

/-- the generated `MarkAsDone` returns (`some _`: the `for { … }` loop is left) with any fuel ≥ 2 -/
theorem tie_ent_MarkAsDone_terminates (fuel : Nat) (hf : 2 ≤ fuel) (r : GoEnt) (id : String) (err : GoError)
    (henv : LifecycleEnv r.env) :
    ∃ res, EntRepository.MarkAsDone fuel r none id err = some res := by
  obtain ⟨res, h⟩ := doneRounds_terminates r id (doneMsg err) henv
  exact ⟨res, by rw [tie_ent_MarkAsDone]; exact doneRounds_mono_le hf h⟩

/-! ### non-vacuity: a call that really goes round the loop -/

/-- another client dispatches the task "a" between this call's first UPDATE and its classifying read -/
def exDispatchEnv : Nat → Repo → Repo := fun n => if n = 1 then lifeRun [(3000000, .dispatch "a")] else lifeRun []

example : LifecycleEnv exDispatchEnv := by
  intro n
  by_cases h : n = 1
  · exact ⟨[(3000000, .dispatch "a")], by simp [Ent.lifecycle], by simp [exDispatchEnv, h]⟩
  · exact ⟨[], by simp, by simp [exDispatchEnv, h]⟩

/-- the task is `scheduled` when `MarkAsDone` starts: the UPDATE misses; the dispatcher's `MarkAsDispatched` lands; the
classifying read shows `dispatched` ⇒ `continue`; the second round's UPDATE hits: nil error, the task ends `done` — and
one round is not enough. -/
example :
    (EntRepository.MarkAsDone 2 { db := { tasks := [exTask .scheduled] }, clk := fun _ => 5000000, env := exDispatchEnv }
        none "a" none).map (fun p => (p.2, (p.1.db.lookup "a").map (fun t => (t.state, t.doneAt)), p.1.nstmt)) =
      some (none, some (.done, some 5000000), 3) ∧
    (EntRepository.MarkAsDone 1 { db := { tasks := [exTask .scheduled] }, clk := fun _ => 5000000, env := exDispatchEnv }
        none "a" none).isNone = true := by
  exact ⟨rfl, rfl⟩

/-- why `LifecycleEnv` must exclude the recovery operation `.revert` (dispatched → scheduled): an environment that
dispatches before every read and reverts before every UPDATE keeps the loop going for as long as it likes. -/
def exRevertEnv : Nat → Repo → Repo := fun n =>
  if n % 2 = 1 then lifeRun [(3000000, .dispatch "a")] else fun db => (Repo.step {} db 4000000 .revert).1

example : (EntRepository.MarkAsDone 6 { db := { tasks := [exTask .scheduled] }, clk := fun _ => 5000000, env := exRevertEnv }
    none "a" none).isNone = true := by rfl

end Gk.Tie
