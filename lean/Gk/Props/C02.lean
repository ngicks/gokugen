/-
C02 — GetNext returns the minimum of the scheduled tasks w.r.t.
(scheduled_at asc, priority desc, created_at asc, insertion order asc), in the specification and in
the in-memory implementation (heap of ids + `Index` fields); `Impl.Mem` refines `Spec.Repo`.
-/
import Gk.Proofs.Mem

namespace Gk

/-- `sortabletask.Less` (`Key.less`) is a strict total order on keys, hence the heap comparator of
`Impl.Mem` (its pull-back along `keyOf`) satisfies the order axioms the heap proofs need —
unconditionally, whatever the task list and the ranks. -/
theorem C02_less_strict_total :
    (∀ a : Key, a.less a = false) ∧
    (∀ a b c : Key, a.less b = true → b.less c = true → a.less c = true) ∧
    (∀ a b : Key, a ≠ b → a.less b = true ∨ b.less a = true) ∧
    (∀ a b c : Key, a.less b = false → b.less c = false → a.less c = false) ∧
    (∀ (tasks : List Task) (rank : String → Nat), H.LtOrder (Mem.lt tasks rank)) :=
  ⟨Key.less_irrefl, fun _ _ _ => Key.less_trans, fun _ _ => Key.less_total,
    fun _ _ _ => Key.less_ntrans, Mem.lt_order⟩

-- non-vacuity: the order is not empty, and ties on the three task fields are broken by the rank
example : Key.less ⟨1, 0, 0, 0⟩ ⟨2, 0, 0, 0⟩ = true := by decide
example : Key.less ⟨1, 5, 0, 7⟩ ⟨1, 3, 0, 2⟩ = true := by decide
example : Key.less ⟨1, 0, 0, 1⟩ ⟨1, 0, 0, 2⟩ = true ∧ Key.less ⟨1, 0, 0, 2⟩ ⟨1, 0, 0, 1⟩ = false := by
  decide

/-- `GetNext` of the specification returns `t` iff `t` is a scheduled task, stored at some position
`i`, that is minimal among the scheduled tasks; it reports `exhausted` iff nothing is scheduled. -/
theorem C02_getNext_spec :
    (∀ (r : Repo) (t : Task),
      r.getNext = some t ↔
        ∃ i : Nat, r.tasks[i]? = some t ∧ t.state = .scheduled ∧
          ∀ (j : Nat) (t' : Task), r.tasks[j]? = some t' → t'.state = .scheduled →
            (t'.key j).less (t.key i) = false) ∧
    (∀ r : Repo, r.getNext = none ↔ ∀ t ∈ r.tasks, t.state ≠ .scheduled) :=
  ⟨Repo.getNext_some_iff, fun _ => Repo.getNext_none_iff⟩

/-- `GetNext` never returns a task that is not stored or not scheduled. -/
theorem C02_never_unscheduled (r : Repo) (t : Task) (h : r.getNext = some t) :
    t ∈ r.tasks ∧ t.state = .scheduled :=
  Repo.getNext_mem h

namespace C02ex
def pa : Param := { workId := some "w", scheduledAt := some 2000000 }
def pb : Param := { workId := some "w", scheduledAt := some 1000000 }
/-- add a (later), add b (earlier), get next. -/
def hist : List (Time × Op) :=
  [(5000000, .add "a" pa), (6000000, .add "b" pb), (7000000, .next)]
def hist' : List (Time × Op) := hist ++ [(8000000, .cancel "b"), (9000000, .cancel "a")]
end C02ex

-- non-vacuity: both answers occur
example : (Repo.run {} {} C02ex.hist).getNext = some (C02ex.pb.normalize.toTask "b" 6000000) := by
  decide
example : (Repo.run {} {} C02ex.hist').getNext = none := by decide
example : ∃ t ∈ (Repo.run {} {} C02ex.hist').tasks, t.state ≠ .scheduled := by decide

/-- `Impl.Mem` refines `Spec.Repo` through `Mem.abs` on every operation of the in-memory API:
same output, and the abstraction of the new state is the new specification state.
(Only `next` uses the invariant; freshness of ids is needed for `Mem.step_inv`, not here.) -/
theorem Mem_refines_Spec (fl : Flags) {m : Mem} (inv : m.Inv) (now : Time) (op : Op)
    (hop : op.isMem = true) :
    (Mem.step fl m now op).2 = (Repo.step fl m.abs now op).2 ∧
    (Mem.step fl m now op).1.abs = (Repo.step fl m.abs now op).1 :=
  Mem.refines fl inv now op hop

/-- The invariant holds initially and is preserved by every operation (`add` with a fresh id). -/
theorem Mem_inv_preserved (fl : Flags) :
    Mem.Inv {} ∧
    ∀ {m : Mem}, m.Inv → ∀ (now : Time) (op : Op), Mem.FreshOp m op → (Mem.step fl m now op).1.Inv :=
  ⟨Mem.inv_empty, fun inv now op hf => Mem.step_inv fl inv now op hf⟩

/-- Along any history of in-memory operations with fresh ids, starting from the empty repository,
the implementation's `GetNext` answers exactly what the specification's `getNext` selects on the
stored tasks: the minimal scheduled task, or `exhausted`. -/
theorem C02_getNext_is_min (fl : Flags) (h : List (Time × Op)) (hf : Mem.Fresh fl {} h) (now : Time) :
    (Mem.step fl (Mem.run fl {} h) now .next).2 =
      match Repo.getNext (Mem.run fl {} h).abs with
      | some t => .task t
      | none => .err .exhausted :=
  Mem.next_out fl (Mem.run_inv fl Mem.inv_empty h hf) now

/-- …and the stored tasks are those of the specification run on the same history; all outputs
agree. -/
theorem C02_run_refines (fl : Flags) (h : List (Time × Op)) (hf : Mem.Fresh fl {} h) :
    (Mem.run fl {} h).abs = Repo.run fl {} h ∧ Mem.outs fl {} h = Repo.outs fl {} h ∧
      (Mem.run fl {} h).Inv :=
  ⟨(Mem.run_refines fl Mem.inv_empty h hf).1, (Mem.run_refines fl Mem.inv_empty h hf).2,
    Mem.run_inv fl Mem.inv_empty h hf⟩

/-- The same with `Load` events anywhere in the history (each loaded list has distinct ids). -/
theorem C02_getNext_is_min_ev (fl : Flags) (h : List Mem.Ev) (hf : Mem.FreshEvs fl {} h)
    (now : Time) :
    (Mem.step fl (Mem.runEv fl {} h) now .next).2 =
      (match Repo.getNext (Mem.runEv fl {} h).abs with
      | some t => .task t
      | none => .err .exhausted) ∧
    (Mem.runEv fl {} h).abs = Repo.runEv fl {} h :=
  ⟨Mem.next_out fl (Mem.runEv_inv fl Mem.inv_empty h hf) now,
    Mem.runEv_refines fl Mem.inv_empty h hf⟩

-- non-vacuity: a fresh history exists, and on it GetNext answers the earlier task "b"
theorem C02ex.fresh : Mem.Fresh {} {} C02ex.hist := by
  refine ⟨rfl, ?_, rfl, ?_, rfl, trivial, trivial⟩
  · show "a" ∉ _
    decide
  · show "b" ∉ _
    decide

example : (Mem.step {} (Mem.run {} {} C02ex.hist) 0 .next).2 =
    .task (C02ex.pb.normalize.toTask "b" 6000000) := by
  rw [C02_getNext_is_min {} C02ex.hist C02ex.fresh 0]
  have : Repo.getNext (Mem.run {} {} C02ex.hist).abs =
      some (C02ex.pb.normalize.toTask "b" 6000000) := by decide +kernel
  rw [this]

theorem C02ex.freshEv : Mem.FreshEvs {} {}
    [.op 5000000 (.add "a" C02ex.pa), .load [C02ex.pb.normalize.toTask "b" 6000000],
     .op 7000000 (.add "a" C02ex.pa)] := by
  refine ⟨⟨rfl, ?_⟩, ?_, ⟨rfl, ?_⟩, trivial⟩
  · show "a" ∉ _
    decide
  · show List.Nodup _
    decide
  · show "a" ∉ _
    decide

/-! ### The obligation is not vacuous: `UpdateById` without `heap.Fix` -/

/-- `Mem.step` with the `heap.Fix` call of `UpdateById` removed. -/
def Mem.stepNoFix (fl : Flags) (m : Mem) (now : Time) : Op → Mem × Out
  | .update id p =>
    if !p.validForUpdate then (m, .err .invalidTask)
    else
      match m.lookup id with
      | none => (m, .err .idNotFound)
      | some t =>
        if t.state != .scheduled then
          match errKindMutate t with
          | some e => (m, .err e)
          | none => (m, .ok)
        else ({ m with tasks := Mem.replaceTask m.tasks id (fun t => t.update p.normalize) }, .ok)
  | op => Mem.step fl m now op

namespace C02ex
def p1 : Param := { workId := some "w", scheduledAt := some 1000000 }
def p2 : Param := { workId := some "w", scheduledAt := some 2000000 }
def p3 : Param := { workId := some "w", scheduledAt := some 3000000 }
def hist3 : List (Time × Op) :=
  [(5000000, .add "a" p1), (5000000, .add "b" p2), (5000000, .add "c" p3)]
/-- postpone "a" behind everything -/
def late : Param := { scheduledAt := some 9000000 }
def good : Mem := (Mem.step {} (Mem.run {} {} hist3) 6000000 (.update "a" late)).1
def bad : Mem := (Mem.stepNoFix {} (Mem.run {} {} hist3) 6000000 (.update "a" late)).1
end C02ex

/-- Without `Fix`, a 3-task history followed by one update leaves an array that is not a heap for the
comparator reading the updated tasks … -/
theorem C02_witness_noFix_breaks_heap :
    ¬ H.IsHeap (Mem.lt C02ex.bad.tasks C02ex.bad.rank) C02ex.bad.heap.arr := by
  intro h
  have := h 0 1 (by decide +kernel) (by decide +kernel) (Or.inl rfl)
  revert this
  clear h
  decide +kernel

/-- … and `GetNext` then returns the postponed task "a" although the specification (and the real
`step`, which calls `Fix`) selects "b". -/
theorem C02_witness_noFix_wrong_next :
    (Mem.step {} C02ex.bad 7000000 .next).2 ≠ (Repo.step {} C02ex.bad.abs 7000000 .next).2 ∧
    (Mem.step {} C02ex.good 7000000 .next).2 = (Repo.step {} C02ex.good.abs 7000000 .next).2 ∧
    C02ex.good.abs = C02ex.bad.abs := by
  decide +kernel

end Gk
