/-
C07 — the mutation-hook timer is never late and never idle (repaired code, `Hook.fixed = true`),
a stopped timer is silent, `GetNext` errors surface, and the witness of the defect in the pinned
decision logic (`Hook.fixed = false`, D2).
-/
import Gk.Hook
import Gk.Proofs.Hook
namespace Gk

theorem C07_inv_init (t0 : Time) : Inv (Obs.init t0) := Inv_init t0

theorem C07_inv_step (o : Obs) (op : Obs.OOp) (f : Option Err) :
    Inv o → o.FreshOp op → Inv (o.step op f).1 :=
  fun hI hf => Inv_step hI op f hf

theorem C07_inv_never_late (o : Obs) : Inv o → o.neverLate = true := Inv.neverLate

theorem C07_inv_stopped_silent (o : Obs) : Inv o → o.stoppedSilent = true := Inv.stoppedSilent

/-- After EVERY history (adds, updates, cancels, dispatches, start/stop, time advances, fires, with
`GetNext` faults injected into any re-arm) the timer is armed no later than the head is due, or a
fire is pending — provided only that `add` is handed fresh ids.
No bound on `t0` or on the `advance` targets is needed. -/
theorem C07_never_late (t0 : Time) (ops : List (Obs.OOp × Option Err)) :
    Obs.FreshHist (Obs.init t0) ops → (Obs.run (Obs.init t0) ops).neverLate = true :=
  fun hf => (Inv_run (Inv_init t0) ops hf).neverLate

/-- The form asked for, with the (unneeded) bounds on the start time. -/
theorem C07_never_late' (t0 : Time) (ops : List (Obs.OOp × Option Err))
    (_h0 : msNs ≤ t0) (_h1 : t0 < farFuture) :
    Obs.FreshHist (Obs.init t0) ops → (Obs.run (Obs.init t0) ops).neverLate = true :=
  C07_never_late t0 ops

theorem C07_stopped_silent (t0 : Time) (ops : List (Obs.OOp × Option Err)) :
    Obs.FreshHist (Obs.init t0) ops → (Obs.run (Obs.init t0) ops).stoppedSilent = true :=
  fun hf => (Inv_run (Inv_init t0) ops hf).stoppedSilent

/-- Spelled out: while the timer is not started nothing is armed and nothing is pending, hence the
scheduler's `fire` finds nothing to receive and changes nothing. -/
theorem C07_stopped_no_fire (o : Obs) (f : Option Err) (hI : Inv o) (hs : o.hook.started = false) :
    o.clock.armed = none ∧ o.clock.pending = false ∧ o.step .fire f = (o, .err .other) := by
  have ⟨_, _, a, b, _⟩ := hI.2.stopped hs
  exact ⟨a, b, by simp [Obs.step, Clock.consume, b]⟩

theorem C07_error_surfaces (o : Obs) (e : Err) :
    o.hook.started = true →
      (o.update (some e)).hook.lastErr = some e ∧ (o.update (some e)).hook.timerReset = false := by
  intro hs
  simp [Obs.update, hs]

/-- Lifted to steps: a step with the fault `some e` injected either surfaces it
(`lastErr = some e`, timer idle, cache empty — see `C07_error_then_rearm`) or never consulted
`GetNext` at all (the resulting state does not depend on the fault). -/
theorem C07_error_surfaces_step (o : Obs) (op : Obs.OOp) (e : Err) :
    ((o.step op (some e)).1.hook.lastErr = some e ∧
      (o.step op (some e)).1.hook.timerReset = false ∧
      (o.step op (some e)).1.hook.cached = none) ∨
    ∀ f, (o.step op f).1 = (o.step op (some e)).1 :=
  step_dich o op e

/-- After an error nothing is cached, so the very next `AddTask`, `UpdateById` or `Cancel` hook re-arms (the
`MarkAsDispatched` hook does nothing on an empty cache). -/
theorem C07_error_then_rearm (o : Obs) (e : Err) (hI : Inv o) (he : o.hook.lastErr = some e) :
    o.hook.cached = none ∧ o.hook.timerReset = false :=
  hI.2.errd e he

theorem C07_next_scheduled (o : Obs) (hI : Inv o) (hs : o.hook.started = true)
    (he : o.hook.lastErr = none) (hst : o.hook.stale = false) :
    (∀ h, o.repo.getNext = some h → o.nextScheduled = (h.scheduledAt, true)) ∧
    (o.repo.getNext = none → o.nextScheduled = (0, false)) := by
  unfold Obs.nextScheduled
  cases hc : o.hook.cached with
  | none =>
    have ⟨a, b⟩ := hI.2.empty hs he hc
    exact ⟨fun h hn => (nomatch a.symm.trans hn), fun _ => by simp [b]⟩
  | some c0 =>
    have ⟨a, ⟨hd, b1, _, b2, _⟩, _⟩ := hI.2.live hs he c0 hc hst
    exact ⟨fun h hn => by cases b1.symm.trans hn; simp [a, b2], fun hn => (nomatch b1.symm.trans hn)⟩

/-- Under the invariant a trusted cache names the head. -/
theorem C07_cache_accurate (o : Obs) (hI : Inv o) (hs : o.hook.started = true)
    (he : o.hook.lastErr = none) (hst : o.hook.stale = false) (c : Task)
    (hc : o.hook.cached = some c) :
    ∃ h, o.repo.getNext = some h ∧ h.id = c.id ∧ h.scheduledAt = c.scheduledAt ∧
      h.priority = c.priority :=
  (hI.2.live hs he c hc hst).2.1

/-- Virtual time never runs backwards. -/
theorem C07_clock_monotone (o : Obs) (ops : List (Obs.OOp × Option Err)) :
    o.clock.now ≤ (o.run ops).clock.now := run_now_mono o ops

def C07.t0 : Time := 63808128000000000000
def C07.at5 : Time := C07.t0 + 5000000000

/-- start, add t1 (5 s, prio 1), update t1 (prio −1, same time), add t2 (5 s, prio 1),
advance to 5 s, fire. -/
def C07.origOps : List (Obs.OOp × Option Err) :=
  [ (.start, none),
    (.add "t1" { workId := some "w", scheduledAt := some C07.at5, priority := some 1 }, none),
    (.update "t1" { priority := some (-1), scheduledAt := some C07.at5 }, none),
    (.add "t2" { workId := some "w", scheduledAt := some C07.at5, priority := some 1 }, none),
    (.advance C07.at5, none),
    (.fire, none) ]

/-- The initial state with the ORIGINAL decision logic. -/
def C07.origInit : Obs := { Obs.init C07.t0 with hook := { fixed := false } }

/-- With the original logic the timer ends idle (nothing armed, nothing pending) although `t1` is
still scheduled and due. -/
theorem C07_orig_witness :
    (Obs.run C07.origInit C07.origOps).neverLate = false ∧
    (Obs.run C07.origInit C07.origOps).clock.armed = none ∧
    (Obs.run C07.origInit C07.origOps).clock.pending = false ∧
    (Obs.run C07.origInit C07.origOps).hook.started = true ∧
    (Obs.run C07.origInit C07.origOps).hook.lastErr = none ∧
    ((Obs.run C07.origInit C07.origOps).repo.getNext.map
        (fun t => (t.id, decide (t.scheduledAt ≤ (Obs.run C07.origInit C07.origOps).clock.now))))
      = some ("t1", true) := by
  decide

/-- The same history on the repaired logic is fine (instance of `C07_never_late`). -/
theorem C07_fixed_same_history : (Obs.run (Obs.init C07.t0) C07.origOps).neverLate = true := by
  decide

/-- start, add t1, add t2 (with a `GetNext` fault injected into its re-arm), update t1 (priority only;
this re-arms and clears the error), advance by 1 s, cancel t2. -/
def C07.liveOps : List (Obs.OOp × Option Err) :=
  [ (.start, none),
    (.add "t1" { workId := some "w", scheduledAt := some C07.at5, priority := some 1 }, none),
    (.add "t2" { workId := some "w", scheduledAt := some (C07.at5 + 1000000000) }, some .other),
    (.update "t1" { priority := some (-1) }, none),
    (.advance (C07.t0 + 1000000000), none),
    (.cancel "t2", none) ]

/-- A concrete 6-op history satisfies `FreshHist` (and the bounds on `t0`) and reaches a state with a
scheduled task, a started timer and an armed deadline: the hypotheses of the theorems above are
satisfiable and the conclusion `neverLate` is not trivially true there. -/
example :
    Obs.FreshHist (Obs.init C07.t0) C07.liveOps ∧
    msNs ≤ C07.t0 ∧ C07.t0 < farFuture ∧
    (Obs.run (Obs.init C07.t0) C07.liveOps).hook.started = true ∧
    (Obs.run (Obs.init C07.t0) C07.liveOps).hook.lastErr = none ∧
    (Obs.run (Obs.init C07.t0) C07.liveOps).clock.armed = some C07.at5 ∧
    (Obs.run (Obs.init C07.t0) C07.liveOps).clock.pending = false ∧
    ((Obs.run (Obs.init C07.t0) C07.liveOps).repo.getNext.map (·.id)) = some "t1" := by
  decide

/-- What `repository.Repository.AddTask` does when the CORE repository stores the task and then reports an error:
the wrapper returns the error and does not call its timer hook (`if err != nil { return err }`). C07 quantifies over
mutations that complete and over `GetNext` faults during re-arming, not over this; the scheduler-side instance of the
same wrapper behaviour is defect D21 (repaired in the scheduler, DESIGN 15.5). -/
def C07.coreOnlyAdd (o : Obs) (id : String) (p : Param) : Obs :=
  { o with repo := (Repo.step {} o.repo o.clock.now (.add id p)).1 }

/-- Machine-checked statement of that limit: timer started on an empty repository; an `AddTask` whose core call
takes effect but is reported as failed leaves a scheduled task with the timer neither armed nor pending and no
timer error recorded — `neverLate` is false there, and stays false until another mutation or a restart. -/
theorem C07_core_after_effect_user_witness :
    let o := C07.coreOnlyAdd (Obs.run (Obs.init C07.t0) [(.start, none)]) "t1"
      { workId := some "w", scheduledAt := some C07.at5 }
    o.neverLate = false ∧ o.clock.armed = none ∧ o.clock.pending = false ∧
    o.hook.started = true ∧ o.hook.lastErr = none ∧ (o.repo.getNext.map (·.id)) = some "t1" ∧
    -- any later mutation through the wrapper heals it
    ((o.step (.add "t2" { workId := some "w", scheduledAt := some (C07.at5 + 1000000000) }) none).1.neverLate = true) := by
  decide

end Gk
