/-
Axiom audit for C11 (`Find`). Only `propext`, `Classical.choice`, `Quot.sound` may appear.
-/
import Gk.Props.C11
import Gk.Proofs.NormInt
open Gk

#print axioms C11_loop
#print axioms C11_loop_neg
#print axioms C11_order
#print axioms C11_window
#print axioms C11_isInfixOf
#print axioms C11_isPrefixOf
#print axioms C11_isSuffixOf
#print axioms C11_prefix_string
#print axioms C11_suffix_string
#print axioms C11_infix_string
#print axioms matchEq_iff
#print axioms mapMatcher_iff
#print axioms matchMap_iff
#print axioms timeMatcher_iff
#print axioms matchTime_iff
#print axioms matchOptTime_iff
#print axioms C11_match_spec
#print axioms C11_match_spec_bool
#print axioms C11_find_spec
#print axioms C11_find_readonly
#print axioms C11_D6_witness
#print axioms isInfixOf_iff
#print axioms isInfixOf_iff_infix
#print axioms normalize_idem
#print axioms isNorm_normalize
