/-
Tie theorems, `repository/inmemory/repository.go` and `io.go`: all ten methods as generated from the CURRENT Go source
(Gk/Gen/Inmemory.lean) act on the Go-shaped receiver exactly as `Gk.Mem.step` / `Mem.save` / `Mem.load` (Gk/Mem.lean)
act on the model state — the `Mem` that C02 / C14 / `Mem_refines_Spec` are about.

The four guarded mutators are split on the atoms the generated text can test (the id is known or not, the state is
the wanted one or not) and each case is computed, so that the proofs do not follow the shape of the text; `tie_guard`
says once that these cases are the ones `Mem.step` distinguishes.

Hypothesis `Uniq m id`: every stored task with this id is the one `lookup` finds (the Go ordered map holds one object
per key; ids are fresh). It is what makes "write the object back" and "map over the list" the same thing.
-/
import Gk.Gen.Inmemory
import Gk.Props.TieDef
import Gk.Proofs.Mem
import Gk.Proofs.ByCreated
import Gk.Proofs.Task
namespace Gk.Tie
open Gk Gk.Gen Gk.Gen.Inmemory

def genMem (m : Mem) (now : Time) (nextId : String) : GoMem := { mem := m, now := now, nextId := nextId }

/-- a refusal of the repository as the Go error value the in-memory code builds -/
def goErrOut (id : String) : Out → GoError
  | .err .invalidTask => some (.wrap (.sentinel "invalid task"))
  | .err e => some (.repo id (kindStr (some e)))
  | _ => none

def Uniq (m : Mem) (id : String) : Prop := ∀ t ∈ m.tasks, t.id = id → some t = m.lookup id

theorem toGenTask_eq : toGenTask = toGen := rfl

theorem stOf_name (s : St) : stOf s.name = s := by cases s <;> decide

theorem lookup_id {m : Mem} {id : String} {t : Gk.Task} (h : m.lookup id = some t) : t.id = id :=
  (Repo.lookup_some (r := m.abs) h).2

theorem ofGen_toGen (t : Gk.Task) : ofGen (toGen t) = t := by
  simp [ofGen, toGen, stOf_name]

theorem replace_const_twice (ts : List Gk.Task) (id : String) (a b : Gk.Task) (ha : a.id = id) :
    Mem.replaceTask (Mem.replaceTask ts id (fun _ => a)) id (fun _ => b) = Mem.replaceTask ts id (fun _ => b) := by
  unfold Mem.replaceTask
  rw [List.map_map]
  apply List.map_congr_left
  intro x _
  by_cases hx : x.id = id <;> simp [hx, ha]

theorem replace_const_eq (m : Mem) (id : String) (t0 : Gk.Task) (f : Gk.Task → Gk.Task)
    (h0 : m.lookup id = some t0) (hu : Uniq m id) :
    Mem.replaceTask m.tasks id (fun _ => f t0) = Mem.replaceTask m.tasks id f := by
  unfold Mem.replaceTask
  apply List.map_congr_left
  intro x hx
  by_cases hid : x.id = id
  · have := hu x hx hid
    rw [h0] at this
    simp [Option.some.inj this]
  · simp [hid]

theorem ofGen_id (x : Def.Task) : (ofGen x).id = x.Id := rfl

@[simp] theorem clock_storeTask (r : GoMem) (w : Sortabletask.IndexedTask) : (GoMem.storeTask r w).clock = r.clock := rfl
@[simp] theorem clock_heapRemove (r : GoMem) (i : Int) : (GoMem.heapRemove r i).clock = r.clock := rfl
@[simp] theorem clock_heapFix (r : GoMem) (i : Int) : (GoMem.heapFix r i).clock = r.clock := rfl
@[simp] theorem randStrGen_genMem (m : Mem) (now : Time) (nid : String) : (genMem m now nid).randStrGen = nid := rfl
@[simp] theorem clock_genMem (m : Mem) (now : Time) (nid : String) : (genMem m now nid).clock.Now = now := rfl

/-- of several writes in a row through the pointer `Get` handed out, the last decides -/
theorem storeTask_twice (r : GoMem) (w1 w2 : Sortabletask.IndexedTask) (h : w1.Task.Id = w2.Task.Id) :
    GoMem.storeTask (GoMem.storeTask r w1) w2 = GoMem.storeTask r w2 := by
  simp only [GoMem.storeTask, h]
  rw [replace_const_twice _ _ _ _ (by rw [ofGen_id, h])]

theorem omapGet_some {m : Mem} {now : Time} {nid id : String} {t : Gk.Task} (h : m.lookup id = some t) :
    GoMem.omapGet (genMem m now nid) id = ({ Task := toGen t, Index := m.heap.idx id, InsertionOrder := m.rank id }, true) := by
  simp only [GoMem.omapGet, genMem, h, toGenTask_eq]

theorem omapGet_none {m : Mem} {now : Time} {nid id : String} (h : m.lookup id = none) :
    GoMem.omapGet (genMem m now nid) id = (default, false) := by
  simp only [GoMem.omapGet, genMem, h]

/-- a cancelled context: every mutating method returns the context error and leaves the receiver alone -/
theorem tie_mem_ctx (r : GoMem) (e : GoErr) (id : String) (p : Def.TaskUpdateParam) (we : GoError) :
    (InMemoryRepository.AddTask r (some e) p) = (r, default, some e) ∧
    (InMemoryRepository.UpdateById r (some e) id p) = (r, some e) ∧
    (InMemoryRepository.Cancel r (some e) id) = (r, some e) ∧
    (InMemoryRepository.MarkAsDispatched r (some e) id) = (r, some e) ∧
    (InMemoryRepository.MarkAsDone r (some e) id we) = (r, some e) ∧
    (InMemoryRepository.GetById r (some e) id) = (default, some e) :=
  ⟨rfl, rfl, rfl, rfl, rfl, rfl⟩

theorem tie_mem_GetById (m : Mem) (now : Time) (nid id : String) :
    InMemoryRepository.GetById (genMem m now nid) none id =
      match m.lookup id with
      | some t => (toGen t, none)
      | none => (default, some (.repo id "id_not_found")) := by
  cases h : m.lookup id with
  | none => simp only [InMemoryRepository.GetById, omapGet_none h, go_rt]; rfl
  | some t => simp only [InMemoryRepository.GetById, omapGet_some h, go_rt]; rfl

/-- a refusal read off the timestamps, as the Go error value the `ErrKind*` wrappers build (`ErrKind` never says
"invalid task", the one refusal that is not a `*RepositoryError`) -/
theorem wrapKind_errKind (t : Gk.Task) (o : ErrKindOption) :
    wrapKind t (errKind t o) = goErrOut t.id (match errKind t o with | some e => Out.err e | none => Out.ok) := by
  rcases errKind_range t o with h | h | h | h | h <;> simp only [h, wrapKind, goErrOut]

theorem refusal_mutate (t : Gk.Task) (id : String) (hid : t.id = id) :
    wrapKind t (errKindMutate t) =
      goErrOut id (match errKindMutate t with | some e => Out.err e | none => Out.ok) :=
  hid ▸ wrapKind_errKind t {}

theorem refusal_done (t : Gk.Task) (id : String) (hid : t.id = id) :
    wrapKind t (errKindMarkAsDone t) =
      goErrOut id (match errKindMarkAsDone t with | some e => Out.err e | none => Out.ok) :=
  hid ▸ wrapKind_errKind t _

/-- The four guarded operations of `Mem.step` open alike (`hM`, which holds by unfolding the model): unknown id, wrong
state (refused with the kind `k` reads off the timestamps), else the body `bm`. So a result `G` of the generated
method is the model's if it is in each of the three cases — whatever the shape of the text that computes it. -/
theorem tie_guard {m : Mem} {now : Time} {nid id : String} (s : St) {k : Gk.Task → Option Err}
    {bm : Gk.Task → Mem × Out} {R : Mem × Out} {G : GoMem × GoError}
    (hM : R = match m.lookup id with
      | none => (m, .err .idNotFound)
      | some t => if t.state != s then (match k t with | some e => (m, .err e) | none => (m, .ok)) else bm t)
    (hnone : m.lookup id = none → G = (genMem m now nid, some (.repo id "id_not_found")))
    (hrefuse : ∀ t, m.lookup id = some t → t.state ≠ s →
      G = (genMem m now nid, goErrOut id (match k t with | some e => Out.err e | none => Out.ok)))
    (hbody : ∀ t, m.lookup id = some t → t.state = s → G = (genMem (bm t).1 now nid, goErrOut id (bm t).2)) :
    G = (genMem R.1 now nid, goErrOut id R.2) := by
  subst hM
  cases h : m.lookup id with
  | none => exact hnone h
  | some t =>
    by_cases hs : t.state = s
    · simp only [hs, bne_self_eq_false, Bool.false_eq_true, if_false]
      exact hbody t h hs
    · simp only [bne_iff_ne.2 hs, if_true]
      rw [hrefuse t h hs]
      cases k t <;> rfl

theorem tie_mem_Cancel (m : Mem) (now : Time) (nid id : String) (hu : Uniq m id) :
    InMemoryRepository.Cancel (genMem m now nid) none id =
      (genMem (Mem.step {} m now (.cancel id)).1 now nid, goErrOut id (Mem.step {} m now (.cancel id)).2) := by
  refine tie_guard .scheduled (k := errKindMutate) rfl (fun h => ?_) (fun t h hs => ?_) (fun t h hs => ?_)
  · simp only [InMemoryRepository.Cancel, omapGet_none h, go_rt]; rfl
  · simp only [InMemoryRepository.Cancel, omapGet_some h, go_rt, beq_eq_false_iff_ne.2 hs,
      tie_ErrKindCancel, refusal_mutate t id (lookup_id h)]
  · obtain rfl := lookup_id h
    simp only [InMemoryRepository.Cancel, omapGet_some h, go_rt, hs, clock_storeTask, clock_heapRemove, clock_genMem,
      tie_NormalizeTime, storeTask_twice]
    rw [← replace_const_eq m _ t _ h hu]
    simp only [GoMem.storeTask, ofGen, toGen, stOf_name]
    rfl

theorem tie_mem_MarkAsDispatched (m : Mem) (now : Time) (nid id : String) (hu : Uniq m id) :
    InMemoryRepository.MarkAsDispatched (genMem m now nid) none id =
      (genMem (Mem.step {} m now (.dispatch id)).1 now nid, goErrOut id (Mem.step {} m now (.dispatch id)).2) := by
  refine tie_guard .scheduled (k := errKindMutate) rfl (fun h => ?_) (fun t h hs => ?_) (fun t h hs => ?_)
  · simp only [InMemoryRepository.MarkAsDispatched, omapGet_none h, go_rt]; rfl
  · simp only [InMemoryRepository.MarkAsDispatched, omapGet_some h, go_rt, beq_eq_false_iff_ne.2 hs,
      tie_ErrKindMarkAsDispatch, refusal_mutate t id (lookup_id h)]
  · obtain rfl := lookup_id h
    simp only [InMemoryRepository.MarkAsDispatched, omapGet_some h, go_rt, hs, clock_storeTask, clock_heapRemove,
      clock_genMem, tie_NormalizeTime, storeTask_twice]
    rw [← replace_const_eq m _ t _ h hu]
    simp only [GoMem.storeTask, ofGen, toGen, stOf_name]
    rfl

/-- the work function's error as `MarkAsDone` receives it: nil, or an error whose text is recorded -/
def goWorkErr : Option String → GoError
  | none => none
  | some msg => some (.other msg)

theorem tie_mem_MarkAsDone (m : Mem) (now : Time) (nid id : String) (e : Option String) (hu : Uniq m id) :
    InMemoryRepository.MarkAsDone (genMem m now nid) none id (goWorkErr e) =
      (genMem (Mem.step {} m now (.done id e)).1 now nid, goErrOut id (Mem.step {} m now (.done id e)).2) := by
  refine tie_guard .dispatched (k := errKindMarkAsDone) rfl (fun h => ?_) (fun t h hs => ?_) (fun t h hs => ?_)
  · simp only [InMemoryRepository.MarkAsDone, omapGet_none h, go_rt]; rfl
  · simp only [InMemoryRepository.MarkAsDone, omapGet_some h, go_rt, beq_eq_false_iff_ne.2 hs,
      tie_ErrKindMarkAsDone, refusal_done t id (lookup_id h)]
  · obtain rfl := lookup_id h
    cases e <;>
      simp only [InMemoryRepository.MarkAsDone, omapGet_some h, go_rt, hs, goWorkErr, clock_storeTask, clock_genMem,
        tie_NormalizeTime, storeTask_twice] <;>
      rw [← replace_const_eq m _ t _ h hu] <;>
      simp only [GoMem.storeTask, ofGen, toGen, stOf_name] <;> rfl

/-- the in-memory repository's `validTask` as a model task (ent uses `fakeTask`: same id, work id and times) -/
def validTaskM : Gk.Task := { fakeTask with param := [], meta_ := [] }

theorem validTask_eq : Inmemory.validTask = toGen validTaskM := by rfl

/-- `validTask.Update(param.Normalize()).IsValid()` is the model's `validForUpdate` -/
theorem tie_validForUpdate (p : Gk.Param) :
    ((Inmemory.validTask).Update (toGenP p).Normalize).IsValid = p.validForUpdate := by
  rw [validTask_eq, tie_Param_Normalize, tie_Task_Update, tie_IsValid]
  simp only [Param.validForUpdate, Task.isValid, Task.update, Task.normalizeTime, Param.normalize, validTaskM, fakeTask]
  cases p.scheduledAt <;> cases p.workId <;> simp [normalize_idem]

theorem toTask_id (p : Gk.Param) (id : String) (now : Time) : (p.toTask id now).id = id := rfl

theorem tie_mem_AddTask (m : Mem) (now : Time) (id : String) (p : Gk.Param) :
    InMemoryRepository.AddTask (genMem m now id) none (toGenP p) =
      (genMem (Mem.step {} m now (.add id p)).1 now id,
       (match (Mem.step {} m now (.add id p)).2 with | .task t => toGen t | _ => default),
       goErrOut id (Mem.step {} m now (.add id p)).2) := by
  simp only [InMemoryRepository.AddTask, go_rt, tie_Param_Normalize, randStrGen_genMem, clock_genMem, tie_Param_ToTask,
    tie_IsValid, Mem.step]
  cases (p.normalize.toTask id now).isValid with
  | false => rfl
  | true =>
    simp only [go_rt, Def.Task.Clone_eq, GoMem.WrapTask, GoMem.heapPush, GoMem.omapSet, genMem, ofGen_toGen, toGen_Id, toTask_id,
      goErrOut]
    rfl

theorem tie_mem_UpdateById (m : Mem) (now : Time) (nid id : String) (p : Gk.Param) (hu : Uniq m id) :
    InMemoryRepository.UpdateById (genMem m now nid) none id (toGenP p) =
      (genMem (Mem.step {} m now (.update id p)).1 now nid, goErrOut id (Mem.step {} m now (.update id p)).2) := by
  cases hv : p.validForUpdate with
  | false => simp only [InMemoryRepository.UpdateById, Mem.step, tie_validForUpdate, hv, go_rt]; rfl
  | true =>
    simp only [Mem.step, hv, go_rt]
    refine tie_guard .scheduled (k := errKindMutate) rfl (fun h => ?_) (fun t h hs => ?_) (fun t h hs => ?_)
    · simp only [InMemoryRepository.UpdateById, tie_validForUpdate, hv, omapGet_none h, go_rt]; rfl
    · simp only [InMemoryRepository.UpdateById, tie_validForUpdate, hv, omapGet_some h, go_rt,
        beq_eq_false_iff_ne.2 hs, tie_ErrKindUpdate, refusal_mutate t id (lookup_id h)]
    · obtain rfl := lookup_id h
      simp only [InMemoryRepository.UpdateById, tie_validForUpdate, hv, omapGet_some h, go_rt, hs]
      simp only [tie_Param_Normalize, tie_Task_Update]
      rw [← replace_const_eq m _ t _ h hu]
      simp only [GoMem.storeTask, ofGen_toGen, toGen_Id]
      rfl

theorem tie_mem_GetNext (m : Mem) (now : Time) (nid : String) (ctx : Ctx)
    (hwf : ∀ id, m.heap.arr[0]? = some id → (m.lookup id).isSome) :
    InMemoryRepository.GetNext (genMem m now nid) ctx =
      (match (Mem.step {} m now .next).2 with | .task t => toGen t | _ => default,
       match (Mem.step {} m now .next).2 with | .err _ => some (.repo "" "exhausted") | _ => none) := by
  have hlen : ((GoMem.heapLen (genMem m now nid) == 0) = true) ↔ m.heap.arr[0]? = none := by
    simp only [GoMem.heapLen, genMem, beq_iff_eq, Array.getElem?_eq_none_iff]; omega
  simp only [InMemoryRepository.GetNext, GoMem.heapPeek, Mem.step, hlen]
  cases h0 : m.heap.arr[0]? with
  | none => rfl
  | some id =>
    obtain ⟨t, hl⟩ := Option.isSome_iff_exists.1 (hwf id h0)
    have h0' : (genMem m now nid).mem.heap.arr[0]? = some id := h0
    simp only [h0', omapGet_some hl, hl, reduceCtorEq, if_false]
    rfl

theorem foldl_filter_append {α β : Type} (p : α → Bool) (f : α → β) (xs : List α) (acc : List β) :
    List.foldl (fun out x => if p x = true then out ++ [f x] else out) acc xs = acc ++ (xs.filter p).map f := by
  induction xs generalizing acc with
  | nil => simp
  | cons x xs ih => by_cases hp : p x = true <;> simp [hp, ih]

theorem insert_map_toGen (t : Gk.Task) (xs : List Gk.Task) :
    Go.insertByCmp (fun (a b : Def.Task) => a.CreatedAt.Compare b.CreatedAt) (toGen t) (xs.map toGen) =
      (insCreated t xs).map toGen := by
  induction xs with
  | nil => rfl
  | cons x xs ih =>
    have hc : ((toGen t).CreatedAt.Compare (toGen x).CreatedAt ≤ 0) ↔ t.createdAt ≤ x.createdAt := by
      simp only [toGen_CreatedAt, Int.Compare, gt_iff_lt]; exact cmp_le _ _
    simp only [List.map_cons, Go.insertByCmp, insCreated]
    by_cases h : t.createdAt ≤ x.createdAt
    · rw [if_pos (hc.2 h), if_pos h]; rfl
    · rw [if_neg (fun h' => h (hc.1 h')), if_neg h, List.map_cons, ih]

theorem sort_map_toGen (xs : List Gk.Task) :
    Go.slices_SortStableFunc (xs.map toGen) (fun (a b : Def.Task) => a.CreatedAt.Compare b.CreatedAt) =
      (byCreated xs).map toGen := by
  induction xs with
  | nil => rfl
  | cons x xs ih =>
    simp only [Go.slices_SortStableFunc, List.map_cons, List.foldr_cons, byCreated] at ih ⊢
    rw [ih, insert_map_toGen]

abbrev PageAcc := Bool × Int × Int × List Def.Task

/-- the step of `Find`'s paging loop, as the generated code has it -/
@[reducible] def PageStep (g : PageAcc → Def.Task → PageAcc) : Prop :=
  ∀ (b : Bool) (o l : Int) (out : List Def.Task) (task : Def.Task),
    g (b, o, l, out) task =
      if b = true then (b, o, l, out)
      else if (o != 0) = true then (b, o - 1, l, out)
      else if (l == 0) = true then (true, o, l, out)
      else if decide (l > 0) = true then (b, o, l - 1, out ++ [task.Clone])
      else (b, o, l, out ++ [task.Clone])

theorem paging_done (g : PageAcc → Def.Task → PageAcc) (hg : PageStep g) (ys : List Def.Task) (o l : Int)
    (out : List Def.Task) : List.foldl g (true, o, l, out) ys = (true, o, l, out) := by
  induction ys with
  | nil => rfl
  | cons y ys ih =>
    have h := hg true o l out y
    simp only [if_true] at h
    simp only [List.foldl_cons, h, ih]

/-- the paging loop of `Find` (offset-- / continue, limit == 0 → break, limit--) = `findLoop` -/
theorem paging_fold (g : PageAcc → Def.Task → PageAcc) (hg : PageStep g) (xs : List Gk.Task) (o l : Int)
    (out : List Def.Task) :
    (List.foldl g (false, o, l, out) (xs.map toGen)).2.2.2 =
      out ++ (findLoop (fun _ => true) xs o l).map toGen := by
  induction xs generalizing o l out with
  | nil => simp [findLoop]
  | cons x xs ih =>
    simp only [List.map_cons, List.foldl_cons, hg, Bool.false_eq_true, if_false, findLoop, if_true, Def.Task.Clone_eq]
    by_cases ho : (o != 0) = true
    · simp only [ho, if_true, ih]
    · by_cases hl : (l == 0) = true
      · simp [ho, hl, paging_done g hg]
      · by_cases hpos : l > 0 <;> simp [ho, hl, hpos, ih]

theorem tie_mem_Find (m : Mem) (now : Time) (nid : String) (ctx : Ctx) (Q : Def.TaskQueryParam) (o l : Int) :
    InMemoryRepository.Find (genMem m now nid) ctx Q o l =
      ((findLoop ((absQ Q).normalize true).matches (byCreated m.tasks) o l).map toGen, none) := by
  simp only [InMemoryRepository.Find, Go.rangeFold, GoMem.omapPairs, genMem, List.foldl_map, toGenTask_eq]
  -- first loop: the matching tasks, oldest-inserted first
  have h1 := foldl_filter_append (fun t : Gk.Task => Q.Normalize.Match (toGen t)) toGen m.tasks []
  simp only [List.nil_append] at h1
  rw [h1]
  have hp : (fun t : Gk.Task => Q.Normalize.Match (toGen t)) = ((absQ Q).normalize true).matches := by
    funext t; rw [tie_Query_Match, tie_Query_Normalize]
  rw [hp, sort_map_toGen, byCreated_filter, findLoop_filter]
  refine Prod.ext ?_ rfl
  show (List.foldl _ (false, o, l, []) _).2.2.2 = _
  rw [paging_fold]
  · simp
  · intro b o l out task; rfl

/-! ### Save / Load (repository/inmemory/io.go) -/

def toKV (t : Gk.Task) : KeyValue := { Key := t.id, Value := toGen t }

theorem foldl_append_map {α β : Type} (f : α → β) (xs : List α) (acc : List β) :
    List.foldl (fun out x => out ++ [f x]) acc xs = acc ++ xs.map f := by
  induction xs generalizing acc with
  | nil => simp
  | cons x xs ih => simp [ih]

/-- `Save`: one `KeyValue` per stored task, oldest first, key = id, value = a copy of the task -/
theorem tie_mem_Save (m : Mem) (now : Time) (nid : String) :
    InMemoryRepository.Save (genMem m now nid) = (Mem.save m).map toKV := by
  simp only [InMemoryRepository.Save, Go.rangeFold, GoMem.omapPairs, genMem, Mem.save]
  rw [foldl_append_map (fun (pair : GoMem.Pair) => ({ Key := pair.Key, Value := pair.Value.Task.Clone } : KeyValue))]
  simp only [List.map_map, toGenTask_eq, Def.Task.Clone_eq, Function.comp_def, List.nil_append]
  rfl

theorem load_fold (kv : List Gk.Task) (acc : Mem) (now : Time) (nid : String) :
    List.foldl (fun r (pair : KeyValue) =>
        if (pair.Value.State == Def.TaskScheduled) = true then
          GoMem.omapSet (GoMem.heapPush (GoMem.WrapTask r pair.Value.Clone).1 (GoMem.WrapTask r pair.Value.Clone).2)
            pair.Key (GoMem.WrapTask r pair.Value.Clone).2
        else GoMem.omapSet (GoMem.WrapTask r pair.Value.Clone).1 pair.Key (GoMem.WrapTask r pair.Value.Clone).2)
      (genMem acc now nid) (kv.map toKV) = genMem (kv.foldl Mem.appendTask acc) now nid := by
  induction kv generalizing acc with
  | nil => rfl
  | cons t ts ih =>
    simp only [List.map_cons, List.foldl_cons]
    rw [← ih (Mem.appendTask acc t)]
    congr 1
    have hs : ((toKV t).Value.State == Def.TaskScheduled) = (t.state == St.scheduled) := state_beq t .scheduled
    simp only [hs, Def.Task.Clone_eq]
    cases h : (t.state == St.scheduled) <;>
      simp only [h, Mem.appendTask, GoMem.WrapTask, GoMem.heapPush, GoMem.omapSet, genMem, toKV, ofGen_toGen, toGen_Id,
        Bool.false_eq_true, if_false, if_true] <;> rfl

theorem tie_mem_Load (m : Mem) (now : Time) (nid : String) (kv : List Gk.Task) :
    InMemoryRepository.Load (genMem m now nid) (kv.map toKV) =
      (genMem (Mem.load kv m).1 now nid, goErrOut "" (Mem.load kv m).2) := by
  have hany : ((kv.map toKV).any fun pair => !pair.Value.IsValid) = kv.any fun t => !t.isValid := by
    simp only [List.any_map, Function.comp_def, toKV, tie_IsValid]
  simp only [InMemoryRepository.Load, Go.rangeFirst_const, hany, Mem.load_eq, Go.rangeFold]
  cases kv.any fun t => !t.isValid with
  | true => rfl
  | false =>
    have hinit : GoMem.init (genMem m now nid) = genMem {} now nid := rfl
    simp only [Bool.false_eq_true, if_false, hinit, load_fold kv {} now nid]
    rfl

/-! ### the hypotheses hold in every reachable state (`Mem.Inv`, preserved by every step: `Mem_inv_preserved`) -/

theorem Uniq_of_inv {m : Mem} (inv : Mem.Inv m) (id : String) : Uniq m id := by
  intro t ht hid
  have := Mem.find_of_mem inv.ids_nodup ht
  unfold Mem.lookup
  rw [← hid, this]

theorem heapHead_stored_of_inv {m : Mem} (inv : Mem.Inv m) :
    ∀ id, m.heap.arr[0]? = some id → (m.lookup id).isSome := by
  intro id h0
  obtain ⟨t, hl, -⟩ := inv.lookup_of_on_heap (Array.mem_toList_iff.2 (Array.mem_of_getElem? h0))
  rw [hl]; rfl

/-- non-vacuity: the empty repository satisfies the invariant, so every theorem above applies from the start -/
example : Uniq ({} : Mem) "x" ∧ ∀ id, ({} : Mem).heap.arr[0]? = some id → (({} : Mem).lookup id).isSome := by
  constructor
  · intro t ht; cases ht
  · intro id h; simp [H.empty] at h

end Gk.Tie
