/-
C01 — the lifecycle is a strict state machine; failed operations change nothing.
-/
import Gk.Proofs.Repo
import Gk.Props.C12
namespace Gk

/-- An operation that returns an error leaves the repository as it was (any flags, no invariant). -/
theorem C01_error_is_noop {fl : Flags} {r : Repo} {now : Time} {op : Op}
    (h : (Repo.step fl r now op).2.isErr = true) : (Repo.step fl r now op).1 = r :=
  step_err_fst h

/-- The three reads never change the repository. -/
theorem C01_reads_are_noops (fl : Flags) (r : Repo) (now : Time) :
    (∀ id, (Repo.step fl r now (.get id)).1 = r) ∧
    (∀ q o l, (Repo.step fl r now (.find q o l)).1 = r) ∧
    (Repo.step fl r now .next).1 = r :=
  step_reads_fst fl r now

/-- The code classifies refusals from the timestamps, the property from the state: under the
consistency part of C12 the two agree. -/
theorem C01_errkind_by_timestamps {t : Task} (h : t.consistent = true) :
    errKindMutate t = (match t.state with
      | .scheduled => none
      | .dispatched => some .alreadyDispatched
      | .cancelled => some .alreadyCancelled
      | .done | .err => some .alreadyDone) ∧
    errKindMarkAsDone t = (match t.state with
      | .scheduled => some .notDispatched
      | .dispatched => none
      | .cancelled => some .alreadyCancelled
      | .done | .err => some .alreadyDone) :=
  errKind_table h

theorem C01_error_kind {r : Repo} {now : Time} {op : Op} (h : r.WF) (hn : normalize now ≠ 0) :
    match Mon.expectedRefusal r.tasks op with
    | some e => (Repo.step {} r now op).2 = .err e
    | none =>
      (match op with
       | .next | .find .. => True
       | _ => (Repo.step {} r now op).2.isErr = false) := by
  cases op with
  | add id p =>
    simp only [Mon.expectedRefusal, Repo.step, toTask_isValid_now _ _ hn normalize_msNs_ne]
    cases (p.normalize.toTask id 1000000).isValid <;> simp [Out.isErr]
  | get id =>
    simp only [Mon.expectedRefusal, Repo.step, Repo.find_eq_lookup]
    cases r.lookup id <;> simp [Out.isErr]
  | update id p =>
    simp only [Mon.expectedRefusal, Repo.step, Repo.find_eq_lookup, mutateScheduled_spec h]
    cases p.validForUpdate
    · simp
    · cases hl : r.lookup id with
      | none => simp
      | some t => cases hs : t.state <;> simp [hs, Out.isErr]
  | cancel id | dispatch id =>
    simp only [Mon.expectedRefusal, Repo.step, Repo.find_eq_lookup, mutateScheduled_spec h]
    cases hl : r.lookup id with
    | none => simp
    | some t => cases hs : t.state <;> simp [hs, Out.isErr]
  | done id e =>
    rw [step_done_spec h]
    simp only [Mon.expectedRefusal, Repo.find_eq_lookup]
    cases hl : r.lookup id with
    | none => simp
    | some t => cases hs : t.state <;> simp [hs, Out.isErr]
  | find q o l => simp [Mon.expectedRefusal]
  | next => simp [Mon.expectedRefusal]
  | revert => simp [Mon.expectedRefusal, Repo.step, Out.isErr]
  | cancelDispatched => simp [Mon.expectedRefusal, Repo.step, Out.isErr]
  | deleteEnded => simp [Mon.expectedRefusal, Repo.step, Out.isErr]



/-- Stored tasks only move along the edges of the lifecycle, and new tasks are created scheduled.
(`op.fresh r` is needed: see `C01_edges_needs_fresh`.) -/
theorem C01_edges_partial {r : Repo} {now : Time} {op : Op} (h : r.WF) (hf : op.fresh r)
    (hl : op.isLifecycle = true) :
    (∀ t ∈ r.tasks, ∀ t' ∈ (Repo.step {} r now op).1.tasks, t'.id = t.id →
      Mon.edgeOk t.state t'.state = true) ∧
    (∀ t' ∈ (Repo.step {} r now op).1.tasks, t'.id ∉ r.tasks.map (·.id) → t'.state = .scheduled) :=
  ⟨fun _ ht _ ht' hid => ((step_shape h now op).same_id h hf ht ht' hid).edge hl,
   fun _ ht' hid => (step_shape h now op).new_task ht' hid⟩

/-- Without `op.fresh r` the statement is false: a second `add` with the id of a dispatched task
appends a scheduled task with that id, i.e. "dispatched → scheduled". -/
theorem C01_edges_needs_fresh :
    ∃ (r : Repo) (now : Time) (op : Op), r.WF ∧ op.isLifecycle = true ∧
      ¬ ∀ t ∈ r.tasks, ∀ t' ∈ (Repo.step {} r now op).1.tasks, t'.id = t.id →
        Mon.edgeOk t.state t'.state = true :=
  ⟨Ex.repo, 9000000, .add "a" Ex.p1, Ex.repo_wf, rfl, by decide⟩

/-- Non-vacuity: a well-formed state on which a lifecycle operation really moves a task. -/
example : Ex.repo.WF ∧ (Op.dispatch "b").fresh Ex.repo ∧ (Op.dispatch "b").isLifecycle = true ∧
    (Repo.step {} Ex.repo 3000000 (.dispatch "b")).1.tasks.map (·.state) = [.dispatched, .dispatched] :=
  ⟨Ex.repo_wf, trivial, rfl, by decide⟩

/-- A lifecycle operation succeeds only from the one state it is allowed in. -/
theorem C01_success_needs_state {r : Repo} {now : Time} (h : r.WF) :
    (∀ id p, (Repo.step {} r now (.update id p)).2 = .ok →
      ∃ t, r.lookup id = some t ∧ t.state = .scheduled) ∧
    (∀ id, (Repo.step {} r now (.cancel id)).2 = .ok →
      ∃ t, r.lookup id = some t ∧ t.state = .scheduled) ∧
    (∀ id, (Repo.step {} r now (.dispatch id)).2 = .ok →
      ∃ t, r.lookup id = some t ∧ t.state = .scheduled) ∧
    (∀ id e, (Repo.step {} r now (.done id e)).2 = .ok →
      ∃ t, r.lookup id = some t ∧ t.state = .dispatched) := by
  have key {op id want f} (he : Edit now op id want f) (hok : (Repo.step {} r now op).2 = .ok) :=
    Ent.guard_eq_true.mp ((he.ok_iff h).mp hok)
  refine ⟨fun id p hok => ?_, fun id => key (.cancel id), fun id => key (.dispatch id), fun id e => key (.done id e)⟩
  by_cases hv : p.validForUpdate = true
  · exact key (.update id p hv) hok
  · simp [Repo.step, hv] at hok

/-- Every step of the model satisfies the run-time monitor `Mon.c01`. -/
theorem C01_monitor {r : Repo} {now : Time} {op : Op} (h : r.WF) (hf : op.fresh r)
    (hn : normalize now ≠ 0) :
    Mon.c01 r.tasks (Repo.step {} r now op).1.tasks op false (Repo.step {} r now op).2 = [] := by
  by_cases hl : op.isLifecycle = true
  · apply c01_nil
    · intro he; rw [C01_error_is_noop he]
    · intro hr; rw [step_read_fst {} r now hr]
    · intro t' ht'
      obtain ⟨hedge, hnew⟩ := C01_edges_partial (now := now) h hf hl
      split
      · next hnone =>
        refine hnew t' ht' fun hmem => ?_
        obtain ⟨p, hp, hpid⟩ := List.mem_map.mp hmem
        exact Repo.lookup_none (r := r) hnone p hp hpid
      · next p hp =>
        obtain ⟨hp1, hp2⟩ := Repo.lookup_some (r := r) hp
        exact hedge p hp1 t' ht' hp2.symm
    · exact C12_never_lost (by rintro rfl; cases hl)
    · exact C01_error_kind h hn
  · cases op <;> first | exact absurd rfl hl | rfl

/-- Non-vacuity: the hypotheses hold on a concrete state, for an operation that is refused
(`done` of a scheduled task) and for one that succeeds. -/
example : Ex.repo.WF ∧ normalize 3000000 ≠ 0 ∧
    (Repo.step {} Ex.repo 3000000 (.done "b" none)).2 = .err .notDispatched ∧
    (Repo.step {} Ex.repo 3000000 (.done "a" none)).2 = .ok :=
  ⟨Ex.repo_wf, by decide, by decide, by decide⟩

/-- The monitors along a whole history. -/
theorem C01_history_from {r : Repo} (h : r.WF) {hist : List (Time × Op)}
    (hh : Repo.FreshHist {} r hist) :
    Repo.allSteps {} (fun r now op =>
      r.WF ∧
      Mon.c01 r.tasks (Repo.step {} r now op).1.tasks op false (Repo.step {} r now op).2 = [] ∧
      Mon.c12Step r.tasks (Repo.step {} r now op).1.tasks op (Repo.step {} r now op).2 = []) r hist := by
  induction hist generalizing r with
  | nil => trivial
  | cons x rest ih =>
    obtain ⟨now, op⟩ := x
    exact ⟨⟨h, C01_monitor h hh.1 hh.2.1, C12_monitor h hh.1⟩, ih (C12_inv_step h hh.1) hh.2.2⟩

theorem C01_history {hist : List (Time × Op)} (hh : Repo.FreshHist {} {} hist) :
    Repo.allSteps {} (fun r now op =>
      r.WF ∧
      Mon.c01 r.tasks (Repo.step {} r now op).1.tasks op false (Repo.step {} r now op).2 = [] ∧
      Mon.c12Step r.tasks (Repo.step {} r now op).1.tasks op (Repo.step {} r now op).2 = []) {} hist :=
  C01_history_from Repo.WF_empty hh


/-- The same in prefix form: at the state reached by any prefix of a fresh history, the next
operation satisfies both monitors (and the state is well formed). -/
theorem C01_history_prefix {pre rest : List (Time × Op)} {now : Time} {op : Op}
    (hh : Repo.FreshHist {} {} (pre ++ (now, op) :: rest)) :
    let r := Repo.run {} {} pre
    r.WF ∧
    Mon.c01 r.tasks (Repo.step {} r now op).1.tasks op false (Repo.step {} r now op).2 = [] ∧
    Mon.c12Step r.tasks (Repo.step {} r now op).1.tasks op (Repo.step {} r now op).2 = [] :=
  Repo.allSteps_prefix (C01_history hh)

/-- Non-vacuity: `Ex.hist` is a fresh history with successful and refused operations of every kind. -/
example : Repo.FreshHist {} {} Ex.hist ∧
    (Repo.run {} {} Ex.hist).tasks.map (·.state) = [.err, .cancelled, .dispatched] :=
  ⟨Ex.hist_fresh, Ex.hist_states⟩

end Gk
