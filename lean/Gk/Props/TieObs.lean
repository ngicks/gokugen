/-
Tie theorems, `repository/repository.go` (the observable wrapper): every method as generated from the CURRENT Go source
(Gk/Gen/Wrapper.lean) is the corresponding step of the model `Gk.Obs.step` (Gk/Hook.lean) that C07 / C05 and the scheduler
World are about: the core repository's operation first, the hook timer's hook only after a success and with the caller's
own parameter and id, reads and MarkAsDone passed through.
-/
import Gk.Gen.Wrapper
import Gk.Props.TieDef
import Gk.Proofs.Repo
import Gk.Proofs.HookAct
namespace Gk.Tie
open Gk Gk.Gen Gk.Gen.Wrapper

def mkObs (o : Obs) (nid : String) (f : Option Gk.Err) : GoObs := { obs := o, nextId := nid, fault := f }

theorem absP_toGenP (p : Gk.Param) : absP (toGenP p) = p := rfl

theorem errOf_isNil (id : String) (out : Out) : (GoObs.errOf id out).isNone = !out.isErr := by
  cases out with
  | err e => cases e <;> rfl
  | _ => rfl

/-- The one condition a mutating method of the wrapper asks about: did the core call fail? If so the step changed
nothing and reports the error; if not the step is the core's write followed by the hook's decision (`Obs.step_mut`).
The ties below decide it and let `simp` evaluate the generated method, so they do not depend on how the Go code words
the test (`err != nil … return err`, or `err == nil … hook`). -/
theorem core_cases (o : Obs) (f : Option Gk.Err) {op : Obs.OOp} {rop : Op} {d : Hook → Hook.Act}
    (hm : op.mut = some (rop, d)) (id : String) :
    ((Repo.step {} o.repo o.clock.now rop).2.isErr = true ∧ (Repo.step {} o.repo o.clock.now rop).1 = o.repo ∧
        (GoObs.errOf id (Repo.step {} o.repo o.clock.now rop).2).isNone = false ∧
        o.step op f = (o, (Repo.step {} o.repo o.clock.now rop).2)) ∨
      ((Repo.step {} o.repo o.clock.now rop).2.isErr = false ∧
        GoObs.errOf id (Repo.step {} o.repo o.clock.now rop).2 = none ∧
        o.step op f = (({ o with repo := (Repo.step {} o.repo o.clock.now rop).1 } : Obs).act (d o.hook) f,
          (Repo.step {} o.repo o.clock.now rop).2)) := by
  rw [Obs.step_mut hm]
  cases he : (Repo.step {} o.repo o.clock.now rop).2.isErr with
  | true => exact .inl ⟨rfl, step_err_fst he, by rw [errOf_isNil, he]; rfl, if_pos rfl⟩
  | false =>
    exact .inr ⟨rfl, Option.isNone_iff_eq_none.1 (by rw [errOf_isNil, he]; rfl), if_neg Bool.false_ne_true⟩

theorem tie_obs_AddTask (o : Obs) (nid : String) (f : Option Gk.Err) (p : Gk.Param) :
    Repository.AddTask (mkObs o nid f) none (toGenP p) =
      (mkObs (o.step (.add nid p) f).1 nid f,
       (if (o.step (.add nid p) f).2.isErr then default else GoObs.taskOf (o.step (.add nid p) f).2),
       GoObs.errOf nid (o.step (.add nid p) f).2) := by
  simp only [Repository.AddTask, GoObs.coreAddTask, GoObs.hookAddTask, GoObs.core, GoObs.ctxOr, mkObs, absP_toGenP,
    hookAdd_eq]
  rcases core_cases o f (op := .add nid p) rfl nid with ⟨he, hr, hn, hs⟩ | ⟨he, hn, hs⟩ <;>
    simp [*, go_rt, Go.isNil_option]

theorem tie_obs_UpdateById (o : Obs) (nid id : String) (f : Option Gk.Err) (p : Gk.Param) :
    Repository.UpdateById (mkObs o nid f) none id (toGenP p) =
      (mkObs (o.step (.update id p) f).1 nid f, GoObs.errOf id (o.step (.update id p) f).2) := by
  simp only [Repository.UpdateById, GoObs.coreUpdateById, GoObs.hookUpdateById, GoObs.core, GoObs.ctxOr, mkObs,
    absP_toGenP, hookUpdate_eq]
  rcases core_cases o f (op := .update id p) rfl id with ⟨he, hr, hn, hs⟩ | ⟨he, hn, hs⟩ <;>
    simp [*, go_rt, Go.isNil_option]

theorem tie_obs_Cancel (o : Obs) (nid id : String) (f : Option Gk.Err) :
    Repository.Cancel (mkObs o nid f) none id =
      (mkObs (o.step (.cancel id) f).1 nid f, GoObs.errOf id (o.step (.cancel id) f).2) := by
  simp only [Repository.Cancel, GoObs.coreCancel, GoObs.hookCancel, GoObs.core, GoObs.ctxOr, mkObs, hookCancel_eq]
  rcases core_cases o f (op := .cancel id) rfl id with ⟨he, hr, hn, hs⟩ | ⟨he, hn, hs⟩ <;>
    simp [*, go_rt, Go.isNil_option]

theorem tie_obs_MarkAsDispatched (o : Obs) (nid id : String) (f : Option Gk.Err) :
    Repository.MarkAsDispatched (mkObs o nid f) none id =
      (mkObs (o.step (.dispatch id) f).1 nid f, GoObs.errOf id (o.step (.dispatch id) f).2) := by
  simp only [Repository.MarkAsDispatched, GoObs.coreMarkAsDispatched, GoObs.hookMarkAsDispatched, GoObs.core,
    GoObs.ctxOr, mkObs, hookDispatch_eq]
  rcases core_cases o f (op := .dispatch id) rfl id with ⟨he, hr, hn, hs⟩ | ⟨he, hn, hs⟩ <;>
    simp [*, go_rt, Go.isNil_option]

/-- a cancelled context: the core refuses, no hook runs, nothing changes -/
theorem tie_obs_ctx (g : GoObs) (c : GoErr) (id : String) (p : Def.TaskUpdateParam) :
    Repository.AddTask g (some c) p = (g, default, some c) ∧
    Repository.UpdateById g (some c) id p = (g, some c) ∧
    Repository.Cancel g (some c) id = (g, some c) ∧
    Repository.MarkAsDispatched g (some c) id = (g, some c) := by
  simp [Repository.AddTask, Repository.UpdateById, Repository.Cancel, Repository.MarkAsDispatched, GoObs.coreAddTask,
    GoObs.coreUpdateById, GoObs.coreCancel, GoObs.coreMarkAsDispatched, GoObs.core, GoObs.ctxOr, go_rt,
    GoObs.taskOf]

/-- pass-through: MarkAsDone and the reads go to the core repository and never touch the hook timer; the timer
methods go to the hook timer -/
theorem tie_obs_passthrough (g : GoObs) (ctx : Ctx) (id : String) (e : GoError) (q : Def.TaskQueryParam) (a b : Int) :
    Repository.MarkAsDone g ctx id e = GoObs.coreMarkAsDone g ctx id e ∧
    Repository.GetById g ctx id = GoObs.coreGetById g ctx id ∧
    Repository.GetNext g ctx = GoObs.coreGetNext g ctx ∧
    Repository.Find g ctx q a b = GoObs.coreFind g ctx q a b ∧
    Repository.StartTimer g ctx = GoObs.hookStartTimer g ctx ∧
    Repository.StopTimer g = GoObs.hookStopTimer g ∧
    Repository.NextScheduled g = GoObs.hookNextScheduled g ∧
    Repository.LastTimerUpdateError g = GoObs.hookLastTimerUpdateError g :=
  ⟨rfl, rfl, rfl, rfl, rfl, rfl, rfl, rfl⟩

end Gk.Tie
