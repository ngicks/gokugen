/-
C20 / C05 — the defect class D21 on a concrete run: `MarkAsDispatched` takes effect in the CORE repository below
the observable wrapper and is then reported as failed (`SAct.markDispatchedCore`), so the wrapper returns the error
WITHOUT calling its timer hook: the hook's cached head / the consumed fire no longer answer to the repository.

Two tasks t1, t2 are due at the same time; one fire announces t1; the first dispatch's mark is the core-level
fault. On the repaired code every `DispatchErr` exit of `dispatchTask` sets the restart request (`getNextErr`),
so the `Step` after the `Retry` stops and restarts the timer, which re-reads the head (t2) and fires at once:
both tasks run (`C20_core_after_effect_recovers`). On a copy of the world whose `DispatchErr` exit does NOT set
the restart request the same driver ends with t2 scheduled and due, nothing armed, nothing pending, no timer
error, nothing that would wake the next `Step`: it blocks in `select` forever
(`C20_core_after_effect_unrepaired_strands`).

The general statement behind the first theorem is `C05_liveInv_step` (the invariant `Live.LiveInv`, whose third
alternative "`Obs.Loose` ∧ a restart is pending" is exactly the state this run is in between the fault and the
restart) together with `C05_no_idle_timer`.
-/
import Gk.World
import Gk.Proofs.WorldAuto
import Gk.Props.C05
namespace Gk
open Live

namespace C20core

def pT : Param := { workId := some "w", scheduledAt := some (C05.sec 5) }

/-- add t1 and t2 (both at 5 s), advance to 5 s, `Step` (timer branch) announces t1; the next `Step` acquires the
worker and its `MarkAsDispatched` takes effect in the core repository and is reported as failed (the wrapper's
hook is not called): `DispatchErr(t1, other)` with t1 already dispatched -/
def toDispatchErr : List Act :=
  [.user (.add "t1" pT) none, .user (.add "t2" pT) none, .advance (C05.sec 5)] ++ C05.stepTimer ++
  [.sched .beginStep, .sched .lastTimerErr, .sched (.waitWorker true), .sched .markDispatchedCore]

/-- the driver calls `Retry`: it fetches t1, finds it dispatched, skips the mark and starts the work function;
the work function returns -/
def retry : List Act :=
  [.sched .beginRetry, .sched (.getById .none), .sched (.waitWorker true), .sched (.getById .none),
   .complete "t1" .nil]

/-- the repaired code: the next `Step` finds the restart request, stops and starts the timer (t2 is due: the
restarted timer fires at once), receives t1's completion and records it -/
def stepRestart : List Act :=
  [.sched .beginStep, .sched .stopTimer, .sched (.startTimer none), .sched .lastTimerErr,
   .sched (.selResult "t1"), .sched (.markDone .none)]

/-- … and keeps stepping: announce t2, dispatch t2, its work function returns, record it -/
def finish : List Act :=
  C05.stepTimer ++
  [.sched .beginStep, .sched .lastTimerErr, .sched (.waitWorker true), .sched (.markDispatched .none none),
   .sched (.getById .none), .complete "t2" .nil,
   .sched .beginStep, .sched .lastTimerErr, .sched (.selResult "t2"), .sched (.markDone .none)]

/-- a scheduler whose `DispatchErr` exit does not set the restart request, in the same situation: no restart request, so the `Step` after the `Retry`
has the plain prologue (`LastTimerUpdateError`, then `select`), where t1's completion is ready -/
def stepUnrepaired : List Act :=
  [.sched .beginStep, .sched .lastTimerErr, .sched (.selResult "t1"), .sched (.markDone .none)]

/-- the world at the `DispatchErr`, as the unrepaired code leaves it: the restart request is NOT set -/
def unrepairedAtErr : World := { (World.init' C05.t0).run toDispatchErr with getNextErr := false }

end C20core

open C20core in
/-- D21 repaired. The core-level fault after effect on the first of two simultaneously due tasks is survived:
* at the `DispatchErr` t1 is dispatched, t2 scheduled and due, NOTHING is armed or pending and the hook still
  caches t1 — but the restart request is set;
* `Retry` finds t1 dispatched, skips the mark, runs it (the request stays set);
* the next `Step` begins with the restart prologue (`pc = s_stop` after `beginStep`), and after
  `StopTimer(); StartTimer()` the hook caches t2 and the fire for it is pending;
* the run is never stuck, t2 is announced and started, and at the end both work functions have run, both tasks
  are `done`, nothing is left scheduled. -/
theorem C20_core_after_effect_recovers :
    let w0 := World.init' C05.t0
    let wE := w0.run toDispatchErr
    let wR := w0.run (toDispatchErr ++ retry)
    let wS := w0.run (toDispatchErr ++ retry ++ stepRestart.take 4)
    let w := w0.run (toDispatchErr ++ retry ++ stepRestart ++ finish)
    World.UserScript w0 (toDispatchErr ++ retry ++ stepRestart ++ finish) ∧
    -- at the DispatchErr
    wE.pc = .idle ∧ (match wE.ret with | .dispatchErr t e => t.id == "t1" && e == Err.other | _ => false) = true ∧
    wE.obs.repo.tasks.map (fun t => (t.id, t.state, decide (t.scheduledAt ≤ wE.obs.clock.now)))
      = [("t1", .dispatched, true), ("t2", .scheduled, true)] ∧
    wE.obs.clock.armed = none ∧ wE.obs.clock.pending = false ∧ wE.obs.hook.cached.map (·.id) = some "t1" ∧
    wE.getNextErr = true ∧
    -- after the Retry
    wR.pc = .idle ∧ wR.ret = .dispatched "t1" ∧ wR.log.map (·.id) = ["t1"] ∧ wR.getNextErr = true ∧
    wR.obs.clock.armed = none ∧ wR.obs.clock.pending = false ∧
    -- the next Step restarts the timer
    (wR.step (.sched .beginStep)).pc = .s_stop ∧
    wS.pc = .s_select ∧ wS.getNextErr = false ∧ wS.obs.hook.cached.map (·.id) = some "t2" ∧
    wS.obs.clock.pending = true ∧
    -- the end
    w.stuck = false ∧ w.pc = .idle ∧ w.log.map (·.id) = ["t1", "t2"] ∧
    w.obs.repo.tasks.map (fun t => (t.id, t.state)) = [("t1", .done), ("t2", .done)] ∧
    (∀ t ∈ w.obs.repo.tasks, t.state ≠ .scheduled) ∧
    w.running = [] ∧ w.completed = [] := by
  decide

open C20core in
/-- D21 NOT repaired (the `DispatchErr` exit does not set the restart request; everything else as above). After the
`Retry` has run t1 and a `Step` has recorded its completion, the scheduler is between two calls with t2 scheduled and
due, the timer started without error but neither armed nor pending, nothing announced, no restart request, a state
that is not retryable: `WakeUp` is false. The next `Step` reaches `select` with no branch ready but the context
(`selTimer` is not enabled): t2 is stranded until some unrelated mutation re-arms the timer. -/
theorem C20_core_after_effect_unrepaired_strands :
    let w := unrepairedAtErr.run (retry ++ stepUnrepaired)
    World.UserScript unrepairedAtErr (retry ++ stepUnrepaired) ∧
    w.stuck = false ∧ w.pc = .idle ∧ w.ret = .taskDone "t1" .nil none ∧ w.log.map (·.id) = ["t1"] ∧
    w.obs.repo.tasks.map (fun t => (t.id, t.state, decide (t.scheduledAt ≤ w.obs.clock.now)))
      = [("t1", .done, true), ("t2", .scheduled, true)] ∧
    w.obs.clock.armed = none ∧ w.obs.clock.pending = false ∧
    w.obs.hook.started = true ∧ w.obs.hook.lastErr = none ∧
    w.lastTask = none ∧ w.getNextErr = false ∧ w.running = [] ∧ w.completed = [] ∧
    ¬ World.WakeUp w ∧
    (w.run [.sched .beginStep, .sched .lastTimerErr]).pc = .s_select ∧
    (w.run [.sched .beginStep, .sched .lastTimerErr, .sched .selTimer]).stuck = true := by
  decide

end Gk
