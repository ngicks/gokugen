/-
C12 — stored tasks are always valid, ms-normalised and timestamp-consistent; ids and creation times
never change; invalid parameters are rejected.
-/
import Gk.Proofs.Repo
namespace Gk

/-- The invariant is preserved by every operation (all 11, including the recovery operations). -/
theorem C12_inv_step {r : Repo} {now : Time} {op : Op} (h : r.WF) (hf : op.fresh r) :
    (Repo.step {} r now op).1.WF :=
  step_wf h hf

/-- Non-vacuity: a concrete non-trivial well-formed state and a fresh add. -/
example : Ex.repo.WF ∧ (Op.add "c" Ex.p1).fresh Ex.repo ∧
    (Repo.step {} Ex.repo 3000000 (.add "c" Ex.p1)).1.tasks.length = 3 := by
  refine ⟨Ex.repo_wf, ?_, by decide⟩
  unfold Op.fresh; decide

/-- Everything a step returns is well formed. -/
theorem C12_returned {r : Repo} {now : Time} {op : Op} (h : r.WF) (_hf : op.fresh r) :
    match (Repo.step {} r now op).2 with
    | .task t => t.wellFormed = true
    | .tasks ts => ∀ t ∈ ts, t.wellFormed = true
    | _ => True := by
  cases hout : (Repo.step {} r now op).2 with
  | task t =>
    rcases step_out_task hout with ⟨id, p, -, rfl, hv⟩ | ⟨id, -, hl⟩ | ⟨-, hn⟩
    · exact (Task.wellFormed_iff _).mpr ⟨hv, toTask_timesNormalized .., toTask_consistent ..⟩
    · exact h.1 t (Repo.lookup_some hl).1
    · exact h.1 t (Repo.getNext_mem hn).1
  | tasks ts => exact fun t ht => h.1 t (step_out_tasks hout t ht)
  | ok => trivial
  | err e => trivial

/-- The invariant holds along every fresh history, from any well-formed start. -/
theorem C12_history_from {r : Repo} (h : r.WF) {hist : List (Time × Op)}
    (hh : Repo.FreshHist {} r hist) : (Repo.run {} r hist).WF := by
  induction hist generalizing r with
  | nil => exact h
  | cons x rest ih =>
    obtain ⟨now, op⟩ := x
    exact ih (C12_inv_step h hh.1) hh.2.2

theorem C12_history {hist : List (Time × Op)} (hh : Repo.FreshHist {} {} hist) :
    (Repo.run {} {} hist).WF :=
  C12_history_from Repo.WF_empty hh

/-- Non-vacuity: a fresh history through every lifecycle operation (including refused ones) that
ends with three tasks in three different states. -/
example : Repo.FreshHist {} {} Ex.hist ∧
    (Repo.run {} {} Ex.hist).tasks.map (·.state) = [.err, .cancelled, .dispatched] :=
  ⟨Ex.hist_fresh, Ex.hist_states⟩

/-- Ids and creation times never change. (`op.fresh r` is needed: see `C12_id_created_immutable_needs_fresh`.) -/
theorem C12_id_created_immutable_partial {r : Repo} {now : Time} {op : Op} (h : r.WF)
    (hf : op.fresh r) :
    ∀ t ∈ r.tasks, ∀ t' ∈ (Repo.step {} r now op).1.tasks, t'.id = t.id → t'.createdAt = t.createdAt :=
  fun _ ht _ ht' hid => ((step_shape h now op).same_id h hf ht ht' hid).created

/-- Without `op.fresh r` the statement is false: a second `add` with a stored id appends a task
with the same id and a new creation time. -/
theorem C12_id_created_immutable_needs_fresh :
    ∃ (r : Repo) (now : Time) (op : Op), r.WF ∧
      ¬ ∀ t ∈ r.tasks, ∀ t' ∈ (Repo.step {} r now op).1.tasks, t'.id = t.id → t'.createdAt = t.createdAt :=
  ⟨Ex.repo, 9000000, .add "a" Ex.p1, Ex.repo_wf, by decide⟩

theorem C12_never_lost {fl : Flags} {r : Repo} {now : Time} {op : Op} (hop : op ≠ .deleteEnded) :
    ∀ t ∈ r.tasks, ∃ t' ∈ (Repo.step fl r now op).1.tasks, t'.id = t.id :=
  fun _ ht => step_never_lost fl r now hop ht

theorem C12_rejects_invalid_update {fl : Flags} {r : Repo} {now : Time} {id : String} {p : Param}
    (h : p.validForUpdate = false) : Repo.step fl r now (.update id p) = (r, .err .invalidTask) := by
  simp [Repo.step, h]

theorem C12_rejects_invalid_add {fl : Flags} {r : Repo} {now : Time} {id : String} {p : Param}
    (h : (p.normalize.toTask id now).isValid = false) :
    Repo.step fl r now (.add id p) = (r, .err .invalidTask) := by
  simp [Repo.step, h]

/-- Every step of the model satisfies the run-time monitor `Mon.c12Step`. -/
theorem C12_monitor {r : Repo} {now : Time} {op : Op} (h : r.WF) (hf : op.fresh r) :
    Mon.c12Step r.tasks (Repo.step {} r now op).1.tasks op (Repo.step {} r now op).2 = [] := by
  have hwf' := C12_inv_step (now := now) h hf
  have himm := C12_id_created_immutable_partial (now := now) h hf
  have hupd : ∀ id p, op = .update id p → (Repo.step {} r now op).2 = .ok → p.validForUpdate = true := by
    intro id p hop hout
    subst hop
    cases hv : p.validForUpdate with
    | true => rfl
    | false => rw [C12_rejects_invalid_update hv] at hout; cases hout
  have hadd : ∀ id p t, op = .add id p → (Repo.step {} r now op).2 = .task t →
      (p.normalize.toTask id 1000000).isValid = true := by
    intro id p t hop hout
    subst hop
    rcases step_out_task hout with ⟨id', p', he, rfl, hv⟩ | ⟨id', he, -⟩ | ⟨he, -⟩
    · cases he
      by_cases hn : normalize now = 0
      · rw [toTask_invalid_of_zero _ _ hn] at hv; cases hv
      · rw [← toTask_isValid_now _ _ hn normalize_msNs_ne]; exact hv
    · cases he
    · cases he
  generalize (Repo.step {} r now op).2 = out at hupd hadd
  generalize (Repo.step {} r now op).1 = r' at hwf' himm
  unfold Mon.c12Step
  simp only [List.append_eq_nil_iff]
  refine ⟨⟨⟨?_, ?_⟩, ?_⟩, ?_⟩
  · rw [List.filterMap_eq_nil_iff]
    intro t' ht'
    split
    · rename_i p hp
      obtain ⟨hp1, hp2⟩ := Repo.lookup_some (r := ⟨_⟩) hp
      simp [himm p hp1 t' ht' hp2.symm]
    · rfl
  · have := eraseDups_of_nodup _ hwf'.2
    simp [this]
  · cases op <;> cases out <;> try rfl
    · rename_i id p t
      simp [hadd id p t rfl rfl]
    · rename_i id p
      simp [hupd id p rfl rfl]
  · rw [List.flatMap_eq_nil_iff]
    exact fun t ht => c12Task_nil (hwf'.1 t ht)

end Gk
