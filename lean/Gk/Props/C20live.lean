/-
C20 (recovery, liveness side) — a task marked as dispatched is never stranded *silently*.

Invariant `Live.DispInv` (Gk/Proofs/WorldLive.lean): every task in state `dispatched` either had its
work function started (its id is in the run log) or is held by the scheduler:
  pc ∈ {d_get t, d_wait t true, r_getById t} with `t.id` its id, or — between two calls — the state
  returned to the driver is `DispatchErr t e` for it, with `e` NOT a repository verdict
  (i.e. `ctx` / `other`: the driver's `Retry` will fetch it, see it dispatched, skip the mark and run it).

PARTIAL: as for C05, the scripts contain the driver's part of the contract (`DriverOk`): a retryable
`DispatchErr` is handed to `Retry`, not dropped by calling `Step` again. Without ghost state the
alternative "or its DispatchErr state was overwritten by a later Step" cannot be expressed as a state
predicate; `C20_step_over_dispatchErr_now` exhibits exactly that situation (restarting the timer, D21, does not
bring back a task that is already marked dispatched).
The *eventual* part (once faults stop, one `Retry` runs the task) is `C20_recovery_eventual` in C20rec.
-/
import Gk.World
import Gk.Proofs.WorldAuto
import Gk.Props.C05
namespace Gk
open Live

theorem C20_dispInv_step_partial (w : World) (a : Act) :
    LiveInv w → DispInv w → World.UserOk w a → World.DriverOk w a → DispInv (w.step a) :=
  fun hL h hu hd => h.step hL a hu hd

/-- Over every (driver-disciplined) script, with faults, cancellations, user mutations anywhere. -/
theorem C20_recovery_partial (t0 : Time) (acts : List Act) :
    World.Script (World.init' t0) acts →
    ∀ u ∈ ((World.init' t0).run acts).obs.repo.tasks, u.state = .dispatched →
      (∃ e ∈ ((World.init' t0).run acts).log, e.id = u.id) ∨
      HeldDisp ((World.init' t0).run acts) u.id :=
  fun hs => (DispInv.init t0).run (LiveInv.init t0) acts hs

/-- Between two calls: a dispatched task whose work function never started is named by the
`DispatchErr` state the driver holds, and that state is retryable. -/
theorem C20_recovery_idle_partial (t0 : Time) (acts : List Act) :
    World.Script (World.init' t0) acts →
    ((World.init' t0).run acts).pc = .idle →
    ∀ u ∈ ((World.init' t0).run acts).obs.repo.tasks, u.state = .dispatched →
      (∀ e ∈ ((World.init' t0).run acts).log, e.id ≠ u.id) →
      ∃ t e, ((World.init' t0).run acts).ret = .dispatchErr t e ∧ t.id = u.id ∧
        World.isDefError e = false := by
  intro hs hpc u hu hst hlog
  obtain ⟨t, e, h1, h2, h3⟩ := DispInv.idle (C20_recovery_partial t0 acts hs) hpc hu hst hlog
  exact ⟨t, e, h1, h3, h2⟩

/-- announce t1; Step: a worker is acquired, `MarkAsDispatched` takes effect and then reports an
error (fault after effect) → `DispatchErr t1 other` with t1 already dispatched. -/
def C20.markFails : List Act :=
  C05.announce ++
  [.sched .beginStep, .sched .lastTimerErr, .sched (.waitWorker true),
   .sched (.markDispatched .after none)]

/-- Non-vacuity: the script is a `Script`, ends between two calls with t1 dispatched, never started,
and `ret = DispatchErr t1 other`. -/
example :
    World.Script (World.init' C05.t0) C20.markFails ∧
    ((World.init' C05.t0).run C20.markFails).pc = .idle ∧
    ((World.init' C05.t0).run C20.markFails).log = [] ∧
    ((World.init' C05.t0).run C20.markFails).obs.repo.tasks.map (fun t => (t.id, t.state))
      = [("t1", .dispatched)] ∧
    (match ((World.init' C05.t0).run C20.markFails).ret with
      | .dispatchErr t e => t.id == "t1" && e == Err.other
      | _ => false) = true := by
  decide

/-- ... and `Retry` recovers it: fetches t1, sees it dispatched, skips the mark, runs it. -/
example :
    let acts := C20.markFails ++
      [.sched .beginRetry, .sched (.getById .none), .sched (.waitWorker true), .sched (.getById .none)]
    World.Script (World.init' C05.t0) acts ∧
    ((World.init' C05.t0).run acts).pc = .idle ∧
    ((World.init' C05.t0).run acts).log.map (fun e => (e.id, e.task.state)) = [("t1", .dispatched)] ∧
    ((World.init' C05.t0).run acts).ret = .dispatched "t1" := by
  decide

/-- REAL FINDING (driver contract): if the driver answers the
`DispatchErr(t1, other)` — t1 already marked dispatched by the failed attempt — with `Step` instead of `Retry`,
* the call sequence without restart prologue (`old`) is not a run of the code (the `Step` begins with the restart
  prologue: `stuck`);
* the actual run restarts the timer (`StopTimer`, `StartTimer`, no timer error), but that does NOT help: t1 is
  not scheduled any more, so nothing is armed and nothing pending, `select` blocks until the context ends
  (`AwaitingNext`), the restart request is consumed, and t1 stays `dispatched` forever although its work
  function never ran: nothing in the scheduler's state refers to it any more. The restart (D21) re-announces
  tasks that are still scheduled (`C05_step_over_dispatchErr_now`); it cannot recover a task whose mark took
  effect — that still needs `Retry`. -/
theorem C20_step_over_dispatchErr_now :
    let old := C20.markFails ++ [.sched .beginStep, .sched .lastTimerErr, .sched .selCtx]
    let acts := C20.markFails ++
      [.sched .beginStep, .sched .stopTimer, .sched (.startTimer none), .sched .lastTimerErr, .sched .selCtx]
    let w := (World.init' C05.t0).run acts
    ((World.init' C05.t0).run old).stuck = true ∧
    ((World.init' C05.t0).run C20.markFails).getNextErr = true ∧
    World.UserScript (World.init' C05.t0) acts ∧ ¬ World.Script (World.init' C05.t0) acts ∧
    w.pc = .idle ∧ w.stuck = false ∧ w.ret = .awaitingNext ∧ w.lastTask = none ∧ w.getNextErr = false ∧
    w.obs.clock.pending = false ∧ w.obs.clock.armed = none ∧
    w.log = [] ∧ w.running = [] ∧ w.completed = [] ∧ w.reported = [] ∧
    w.obs.repo.tasks.map (fun t => (t.id, t.state)) = [("t1", .dispatched)] := by
  decide

end Gk
