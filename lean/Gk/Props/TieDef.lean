/-
Tie theorems, package `def`: every definition that `gkh golean` generates from the CURRENT Go sources
(Gk/Gen/Def.lean — regenerated by every check) equals, for all inputs, the hand-written model definition
that the property theorems are about (Gk/Basic.lean, Gk/Query.lean).

`toGen*` embed model values into the generated (Go-shaped, stringly typed) structures; `abs*` read a
generated value back. Where Go's types are wider than the model's (any string as a state or a match type)
the theorem is stated over the Go-shaped side, so that it covers every Go input.
-/
import Gk.Gen.Def
import Gk.Proofs.GoRt
namespace Gk.Tie
open Gk Gk.Gen.Def

def toGen (t : Gk.Task) : Gen.Def.Task :=
  { Id := t.id, WorkId := t.workId, Priority := t.priority, State := t.state.name, Err := t.err,
    Param := t.param, Meta := t.meta_, ScheduledAt := t.scheduledAt, CreatedAt := t.createdAt,
    Deadline := t.deadline, CancelledAt := t.cancelledAt, DispatchedAt := t.dispatchedAt, DoneAt := t.doneAt }

def toGenO (o : Gk.ErrKindOption) : Gen.Def.ErrKindOption :=
  { SkipCancelledAt := o.skipCancelledAt, SkipDispatchedAt := o.skipDispatchedAt,
    SkipDoneAt := o.skipDoneAt, ReturnOnEmptyDispatchedAt := o.returnOnEmptyDispatchedAt }

def toGenP (p : Gk.Param) : Gen.Def.TaskUpdateParam :=
  { WorkId := p.workId, Priority := p.priority, Param := p.param, Meta := p.meta_,
    ScheduledAt := p.scheduledAt, Deadline := p.deadline }

/-- The repository error kinds as Go spells them. -/
def kindStr : Option Gk.Err → String
  | some .alreadyDone => "already_done"
  | some .alreadyCancelled => "already_cancelled"
  | some .alreadyDispatched => "already_dispatched"
  | some .notDispatched => "not_dispatched"
  | some .idNotFound => "id_not_found"
  | some .exhausted => "exhausted"
  | _ => ""

def absMT (s : String) : Gk.MapMatchType :=
  if s = "HasKey" then .hasKey else if s = "Exact" then .exact else if s = "Forward" then .forward
  else if s = "Backward" then .backward else if s = "Middle" then .middle else .other

def absTT (s : String) : Gk.TimeMatchType :=
  if s = "NonNull" then .nonNull else if s = "Equal" then .equal else if s = "Before" then .before
  else if s = "BeforeEqual" then .beforeEqual else if s = "After" then .after
  else if s = "AfterEqual" then .afterEqual else .other

def absMM (m : Gen.Def.MapMatcher) : Gk.MapMatcher :=
  { key := m.Key, value := m.Value, matchType := absMT m.MatchType }

def absTM (m : Gen.Def.TimeMatcher) : Gk.TimeMatcher :=
  { matchType := absTT m.MatchType, value := m.Value }

def absQ (q : Gen.Def.TaskQueryParam) : Gk.Query :=
  { id := q.Id, workId := q.WorkId, priority := q.Priority, state := q.State, err := q.Err,
    param := q.Param.map (·.map absMM), meta_ := q.Meta.map (·.map absMM),
    scheduledAt := q.ScheduledAt.map absTM, createdAt := q.CreatedAt.map absTM,
    deadline := q.Deadline.map (·.map absTM), cancelledAt := q.CancelledAt.map (·.map absTM),
    dispatchedAt := q.DispatchedAt.map (·.map absTM), doneAt := q.DoneAt.map (·.map absTM) }

@[simp] theorem toGen_Id (c : Gk.Task) : (toGen c).Id = c.id := rfl
@[simp] theorem toGen_Priority (c : Gk.Task) : (toGen c).Priority = c.priority := rfl
@[simp] theorem toGen_ScheduledAt (c : Gk.Task) : (toGen c).ScheduledAt = c.scheduledAt := rfl
@[simp] theorem toGen_CreatedAt (c : Gk.Task) : (toGen c).CreatedAt = c.createdAt := rfl

/-! ### def/task.go, def/util/drop_micros.go -/

theorem tie_NormalizeTime (x : Time) : Gen.Def.NormalizeTime x = Gk.normalize x := by
  simp [Gen.Def.NormalizeTime, Gen.Def.DropMicros, Int.In, Int.Truncate, Go.time_Millisecond, Gk.normalize]

theorem tie_IsState (s : St) : Gen.Def.IsState s.name = true := by
  cases s <;> decide

theorem tie_IsState_iff (s : String) : Gen.Def.IsState s = true ↔ ∃ st : St, st.name = s := by
  constructor
  · intro h
    simp [Gen.Def.IsState, Go.slices_Contains, Gen.Def.states, Gen.Def.TaskScheduled, Gen.Def.TaskDispatched,
      Gen.Def.TaskCancelled, Gen.Def.TaskDone, Gen.Def.TaskErr] at h
    rcases h with h | h | h | h | h
    · exact ⟨.scheduled, h.symm⟩
    · exact ⟨.dispatched, h.symm⟩
    · exact ⟨.cancelled, h.symm⟩
    · exact ⟨.done, h.symm⟩
    · exact ⟨.err, h.symm⟩
  · rintro ⟨st, rfl⟩; exact tie_IsState st

theorem name_inj {a b : St} (h : a.name = b.name) : a = b := by
  cases a <;> cases b <;> simp [St.name] at h ⊢

theorem name_beq (a b : St) : (a.name == b.name) = (a == b) := by
  rw [Bool.eq_iff_iff, beq_iff_eq, beq_iff_eq]
  exact ⟨name_inj, congrArg _⟩

@[go_rt] theorem state_beq (t : Gk.Task) (s : St) : ((toGen t).State == s.name) = (t.state == s) := name_beq t.state s

theorem state_ne (t : Gk.Task) (s : St) : ((toGen t).State != s.name) = (t.state != s) :=
  congrArg (!·) (name_beq t.state s)

/-- in the simp set a `!=` test is read as the negated `==` test, so that one fact about `t.state == s` decides both -/
@[go_rt] theorem state_bne (t : Gk.Task) (s : St) : ((toGen t).State != s.name) = !(t.state == s) := state_ne t s

/-! Go's five state constants are the names of the model's states: with these `state_beq` / `state_bne` read a state test
of the translated code, whichever way round it is written. -/
@[go_rt] theorem TaskScheduled_eq : Gen.Def.TaskScheduled = St.scheduled.name := rfl
@[go_rt] theorem TaskDispatched_eq : Gen.Def.TaskDispatched = St.dispatched.name := rfl
@[go_rt] theorem TaskCancelled_eq : Gen.Def.TaskCancelled = St.cancelled.name := rfl
@[go_rt] theorem TaskDone_eq : Gen.Def.TaskDone = St.done.name := rfl
@[go_rt] theorem TaskErr_eq : Gen.Def.TaskErr = St.err.name := rfl

theorem tie_IsValid (t : Gk.Task) : (toGen t).IsValid = t.isValid := by
  have := tie_IsState t.state
  simp [Gen.Def.Task.IsValid, Gk.Task.isValid, toGen, Int.IsZero, this, bne]

theorem tie_Task_Less (t j : Gk.Task) : (toGen t).Less (toGen j) = t.lessHook j := by
  simp only [Gen.Def.Task.Less, Gk.Task.lessHook, toGen, Option.IsSome, Int.Equal, Int.Before]
  by_cases h1 : t.cancelledAt.isSome <;> simp [h1]
  by_cases h2 : t.scheduledAt = j.scheduledAt <;> simp [h2]
  · by_cases h3 : t.priority = j.priority <;> simp [h3]
    exact decide_eq_decide.mpr Iff.rfl
  · exact decide_eq_decide.mpr Iff.rfl

theorem tie_Task_NormalizeTime (t : Gk.Task) : (toGen t).NormalizeTime = toGen t.normalizeTime := by
  simp [Gen.Def.Task.NormalizeTime, Gen.Def.Task.Clone, Go.maps_Clone, Gk.Task.normalizeTime, toGen, Option.Map,
    tie_NormalizeTime]
  constructor <;> (try constructor) <;> (try constructor) <;> (try constructor) <;> funext x <;> exact tie_NormalizeTime x

/-! ### def/err_kind.go -/

/-- Only the four flags and whether each of the three timestamps is set matter: eight cases of the timestamps, each
a table of sixteen rows over the flags, evaluated at once (so the proof follows neither the order nor the shape of
the tests in the Go text). -/
theorem tie_ErrKind (t : Gk.Task) (o : Gk.ErrKindOption) :
    Gen.Def.ErrKind (toGen t) (toGenO o) = kindStr (Gk.errKind t o) := by
  rcases o with ⟨a, b, c, d⟩
  cases h1 : t.doneAt <;> cases h2 : t.cancelledAt <;> cases h3 : t.dispatchedAt <;>
    simp only [Gen.Def.ErrKind, Gk.errKind, toGen, toGenO, Option.IsSome, Option.IsNone, h1, h2, h3,
      Option.isSome_some, Option.isSome_none, Option.isNone_some, Option.isNone_none] <;>
    revert a b c d <;> decide

theorem kindStr_eq_empty (k : Option Gk.Err)
    (hk : k = none ∨ k = some .alreadyDone ∨ k = some .alreadyCancelled ∨ k = some .alreadyDispatched ∨
      k = some .notDispatched) : kindStr k = "" ↔ k = none := by
  rcases hk with h | h | h | h | h <;> subst h <;> simp [kindStr]

theorem errKind_range (t : Gk.Task) (o : Gk.ErrKindOption) :
    Gk.errKind t o = none ∨ Gk.errKind t o = some .alreadyDone ∨ Gk.errKind t o = some .alreadyCancelled ∨
      Gk.errKind t o = some .alreadyDispatched ∨ Gk.errKind t o = some .notDispatched := by
  unfold Gk.errKind; split <;> (try split) <;> (try split) <;> (try split) <;> simp

/-- What the four `ErrKind*` wrappers return: nil, or a `*RepositoryError` with the task's id and the kind. -/
def wrapKind (t : Gk.Task) (k : Option Gk.Err) : GoError :=
  match k with
  | none => none
  | some e => some (.repo t.id (kindStr (some e)))

theorem tie_wrap (t : Gk.Task) (o : Gk.ErrKindOption) :
    (if (kindStr (Gk.errKind t o) != "") = true then Go.repoErr (Id := t.id) (Kind := kindStr (Gk.errKind t o)) else Go.nil)
      = wrapKind t (Gk.errKind t o) := by
  rcases errKind_range t o with h | h | h | h | h <;> rw [h] <;> simp [kindStr, wrapKind, go_rt]

theorem tie_ErrKindUpdate (t : Gk.Task) : Gen.Def.ErrKindUpdate (toGen t) = wrapKind t (Gk.errKindMutate t) := by
  have hd : (default : Gen.Def.ErrKindOption) = toGenO {} := rfl
  simp only [Gen.Def.ErrKindUpdate, Gk.errKindMutate, hd, tie_ErrKind]
  exact tie_wrap t {}

theorem tie_ErrKindCancel (t : Gk.Task) : Gen.Def.ErrKindCancel (toGen t) = wrapKind t (Gk.errKindMutate t) :=
  tie_ErrKindUpdate t

theorem tie_ErrKindMarkAsDispatch (t : Gk.Task) :
    Gen.Def.ErrKindMarkAsDispatch (toGen t) = wrapKind t (Gk.errKindMutate t) :=
  tie_ErrKindUpdate t

theorem tie_ErrKindMarkAsDone (t : Gk.Task) :
    Gen.Def.ErrKindMarkAsDone (toGen t) = wrapKind t (Gk.errKindMarkAsDone t) := by
  have hd : ({ ReturnOnEmptyDispatchedAt := true, SkipDispatchedAt := true } : Gen.Def.ErrKindOption) =
      toGenO { returnOnEmptyDispatchedAt := true, skipDispatchedAt := true } := rfl
  simp only [Gen.Def.ErrKindMarkAsDone, Gk.errKindMarkAsDone, hd, tie_ErrKind]
  exact tie_wrap t _

/-! ### def/task_param.go: TaskUpdateParam -/

theorem tie_Param_Normalize (p : Gk.Param) : (toGenP p).Normalize = toGenP p.normalize := by
  simp only [Gen.Def.TaskUpdateParam.Normalize, Gen.Def.TaskUpdateParam.Clone, Gen.Def.normalizeOptionOptionTime,
    Gk.Param.normalize, toGenP, Option.Map, Go.maps_Clone]
  have hn : Gen.Def.NormalizeTime = Gk.normalize := funext tie_NormalizeTime
  simp [hn]

theorem tie_Param_Update (p u : Gk.Param) : (toGenP p).Update (toGenP u) = toGenP (p.updateWith u) := by
  simp [Gen.Def.TaskUpdateParam.Update, Gen.Def.TaskUpdateParam.Clone, Gk.Param.updateWith, toGenP, Option.Map,
    Option.Or, Go.maps_Clone]

theorem tie_assignIfSome_plain {T : Type} [Inhabited T] (v : T) (u : Option T) :
    Gen.Def.assignIfSome v u Go.nil Go.nil = u.getD v := by
  cases u <;> simp [Gen.Def.assignIfSome, go_rt]

theorem tie_assignIfSome_map (v : SMap) (u : Option SMap) :
    Gen.Def.assignIfSome v u (some (fun (v : SMap) => Go.isNil v)) (some (fun (_ : Unit) => Go.emptyMap)) = u.getD v := by
  rcases u with _ | (_ | ⟨x, xs⟩) <;>
    simp [Gen.Def.assignIfSome, go_rt]

/-- the six `assignIfSome` calls of `Task.Update`, before the final `NormalizeTime` -/
def Task.assign (t : Gk.Task) (p : Gk.Param) : Gk.Task :=
  { t with workId := p.workId.getD t.workId, param := p.param.getD t.param, priority := p.priority.getD t.priority,
           scheduledAt := p.scheduledAt.getD t.scheduledAt,
           deadline := (match p.deadline with | some d => d | none => t.deadline), meta_ := p.meta_.getD t.meta_ }

theorem tie_Task_Update (t : Gk.Task) (p : Gk.Param) : (toGen t).Update (toGenP p) = toGen (t.update p) := by
  have h1 : (toGen t).Update (toGenP p) = (toGen (Task.assign t p)).NormalizeTime := by
    simp only [Gen.Def.Task.Update, tie_assignIfSome_plain, tie_assignIfSome_map, toGenP]
    congr 1
    simp only [toGen, Task.assign]
    cases p.deadline <;> rfl
  rw [h1, tie_Task_NormalizeTime]
  rfl

theorem tie_Param_ToTask (p : Gk.Param) (id : String) (c : Time) :
    (toGenP p).ToTask id c = toGen (p.toTask id c) := by
  have h := tie_Task_Update (Gk.Task.blank id (Gk.normalize c)) p
  simp only [Gen.Def.TaskUpdateParam.ToTask, Gk.Param.toTask, tie_NormalizeTime]
  rw [← h]
  rfl

/-! ### def/task_param.go: matchers and TaskQueryParam -/

/-- Go's spelling of the match types (`other`: no name, `Get` never returns it) -/
def mtName : MapMatchType → String
  | .hasKey => "HasKey" | .exact => "Exact" | .forward => "Forward" | .backward => "Backward"
  | .middle => "Middle" | .other => ""

def ttName : TimeMatchType → String
  | .nonNull => "NonNull" | .equal => "Equal" | .before => "Before" | .beforeEqual => "BeforeEqual"
  | .after => "After" | .afterEqual => "AfterEqual" | .other => ""

/-- `mapMatchType.Get` on ANY string: the name of the model's `get` of the type the string reads as. `Match` looks at
the type only through `Get`, so below it the string is gone and six names are left. (Both sides are chains of the same
string tests; `grind` walks them.) -/
theorem tie_mapMatchType_Get (s : String) : mapMatchType.Get s = mtName (absMT s).get := by
  grind [mapMatchType.Get, absMT, MapMatcherHasKey, MapMatcherExact, MapMatcherForward, MapMatcherBackward,
    MapMatcherMiddle, mtName, MapMatchType.get]

theorem tie_timeMatchType_Get (s : String) : timeMatchType.Get s = ttName (absTT s).get := by
  grind [timeMatchType.Get, absTT, TimeMatcherNonNull, TimeMatcherEqual, TimeMatcherBefore, TimeMatcherBeforeEqual,
    TimeMatcherAfter, TimeMatcherAfterEqual, ttName, TimeMatchType.get]

theorem tie_MapMatcher_Match (m : Gen.Def.MapMatcher) (mm : SMap) : m.Match mm = (absMM m).matches mm := by
  simp only [Gen.Def.MapMatcher.Match, tie_mapMatchType_Get, absMM, Gk.MapMatcher.matches, Go.mapLookup]
  generalize (absMT m.MatchType).get = g
  cases g <;> cases SMap.lookup mm m.Key <;>
    simp [mtName, MapMatcherHasKey, MapMatcherExact, MapMatcherForward, MapMatcherBackward, MapMatcherMiddle,
      Go.strings_HasPrefix, Go.strings_HasSuffix, Go.strings_Contains]

theorem tie_MapMatchers_Match (ms : List Gen.Def.MapMatcher) (v : SMap) :
    Gen.Def.MapMatchers.Match ms v = (ms.map absMM).all (·.matches v) := by
  simp only [Gen.Def.MapMatchers.Match, Go.rangeFirst]
  induction ms with
  | nil => simp
  | cons m ms ih =>
    simp only [List.findSome?_cons, List.map_cons, List.all_cons, ← tie_MapMatcher_Match]
    cases m.Match v <;> simp_all

theorem cmp_ge (a b : Int) : (0 ≤ if a < b then (-1 : Int) else if b < a then 1 else 0) ↔ b ≤ a := by
  by_cases h1 : a < b <;> by_cases h2 : b < a <;> simp [h1, h2] <;> omega
theorem cmp_le (a b : Int) : (if a < b then (-1 : Int) else if b < a then 1 else 0) ≤ 0 ↔ a ≤ b := by
  by_cases h1 : a < b <;> by_cases h2 : b < a <;> simp [h1, h2] <;> omega
theorem cmp_gt (a b : Int) : (0 < if a < b then (-1 : Int) else if b < a then 1 else 0) ↔ b < a := by
  by_cases h1 : a < b <;> by_cases h2 : b < a <;> simp [h1, h2] <;> omega
theorem cmp_lt (a b : Int) : (if a < b then (-1 : Int) else if b < a then 1 else 0) < 0 ↔ a < b := by
  by_cases h1 : a < b <;> by_cases h2 : b < a <;> simp [h1, h2] <;> omega

theorem tie_TimeMatcher_Match (m : Gen.Def.TimeMatcher) (v : Option Time) : m.Match v = (absTM m).matches v := by
  rcases m with ⟨s, x⟩
  show _ = Gk.TimeMatcher.matches ⟨absTT s, x⟩ v
  simp only [Gen.Def.TimeMatcher.Match, tie_timeMatchType_Get, Gk.TimeMatcher.matches]
  generalize (absTT s).get = g
  cases g <;> cases v <;>
    simp [ttName, TimeMatcherNonNull, TimeMatcherEqual, TimeMatcherBefore, TimeMatcherBeforeEqual,
      TimeMatcherAfter, TimeMatcherAfterEqual, Go.isNil, Go.IsNil.isNil, Int.Equal, Int.Compare, Option.Value,
      cmp_ge, cmp_le, cmp_gt, cmp_lt]

theorem tie_matchComparable {T : Type} [BEq T] [Inhabited T] (v : T) (m : Option T) :
    Gen.Def.matchComparable v m = Gk.matchEq v m := by
  cases m <;> simp [Gen.Def.matchComparable, Gk.matchEq, Option.IsNone, Option.Value]

theorem tie_matchMap (v : SMap) (m : Option (List Gen.Def.MapMatcher)) :
    Gen.Def.matchMap v m = Gk.matchMap v (m.map (·.map absMM)) := by
  cases m with
  | none => simp [Gen.Def.matchMap, Gk.matchMap, Option.IsNone]
  | some ms =>
    simp only [Gen.Def.matchMap, Gk.matchMap, Option.IsNone, Option.Value, Go.conv, Option.map, Option.isNone,
      Option.getD]
    exact tie_MapMatchers_Match ms v

theorem tie_matchTime (v : Time) (m : Option Gen.Def.TimeMatcher) :
    Gen.Def.matchTime (Go.addr v) m = Gk.matchTime v (m.map absTM) := by
  cases m with
  | none => simp [Gen.Def.matchTime, Gk.matchTime, Option.IsNone]
  | some tm =>
    simp only [Gen.Def.matchTime, Gk.matchTime, Option.IsNone, Option.Value, Go.addr, Option.map, Option.isNone,
      Option.getD]
    exact tie_TimeMatcher_Match tm (some v)

theorem tie_matchOptTime (v : Option Time) (m : Option (Option Gen.Def.TimeMatcher)) :
    Gen.Def.matchOptTime v.Pointer m = Gk.matchOptTime v (m.map (·.map absTM)) := by
  rcases m with _ | _ | tm
  · simp [Gen.Def.matchOptTime, Gk.matchOptTime, Option.IsNone]
  · simp [Gen.Def.matchOptTime, Gk.matchOptTime, go_rt, Go.isNil_option]
  · simp only [Gen.Def.matchOptTime, Gk.matchOptTime, Option.IsNone, Option.Value, Option.map, Option.isNone,
      Option.getD, Option.Pointer]
    exact tie_TimeMatcher_Match tm v

/-- `TaskQueryParam.Match` on every Go-shaped query and every model task. -/
theorem tie_Query_Match (q : Gen.Def.TaskQueryParam) (t : Gk.Task) :
    q.Match (toGen t) = (absQ q).matches t := by
  simp only [Gen.Def.TaskQueryParam.Match, Gk.Query.matches, toGen, absQ, tie_matchComparable, tie_matchMap,
    tie_matchTime, tie_matchOptTime]

theorem tie_normalizeTimeMatcher (m : Gen.Def.TimeMatcher) :
    absTM (Gen.Def.normalizeTimeMatcher m) = (absTM m).normalize := by
  simp [Gen.Def.normalizeTimeMatcher, absTM, Gk.TimeMatcher.normalize, tie_NormalizeTime]

/-- `TaskQueryParam.Normalize` (all six time operands, Deadline included — the D6 repair). -/
theorem tie_Query_Normalize (q : Gen.Def.TaskQueryParam) :
    absQ q.Normalize = (absQ q).normalize true := by
  have h2 : ∀ o : Option (Option Gen.Def.TimeMatcher),
      (Gen.Def.normalizeOptionTimeMatcher o).map (·.map absTM) =
        (o.map (·.map absTM)).map (·.map Gk.TimeMatcher.normalize) := by
    intro o; rcases o with _ | _ | m <;> simp [Gen.Def.normalizeOptionTimeMatcher, Option.Map, tie_normalizeTimeMatcher]
  have h3 : (absTM ∘ Gen.Def.normalizeTimeMatcher) = (Gk.TimeMatcher.normalize ∘ absTM) :=
    funext tie_normalizeTimeMatcher
  have h4 : ((fun x => List.map absMM x) ∘ Go.slices_Clone) = (fun x => List.map absMM x) := rfl
  simp [Gen.Def.TaskQueryParam.Normalize, Gen.Def.TaskQueryParam.Clone, Gk.Query.normalize, absQ,
    h2, h3, h4, Option.Map]

end Gk.Tie
