/-
C08 — worker-pool dispatcher bounds concurrency and applies back-pressure (PARTIAL: the theorems are
about the counter abstraction `Gk.Pool` of a third-party pool; which goroutine receives a send and the
race between a removed worker's cancellation and a concurrent send are runtime behaviour, sampled by
the correspondence `gkh pool`, not proved).
-/
import Gk.Pool
namespace Gk
open Pool

structure Pool.Inv (p : Pool) : Prop where
  busy_le : p.busy ≤ p.alive
  /-- back-pressure: a dispatch waits only when no alive worker is idle -/
  waiting_full : p.waiting > 0 → p.busy = p.alive
  /-- nothing lost, nothing duplicated: every accepted item is finished or running, exactly once -/
  conserve : p.accepted = p.finished + p.busy + p.sleeping

theorem Pool.inv_init : Pool.Inv {} := ⟨by decide, by decide, by decide⟩

theorem Pool.settle_inv {p : Pool} (hb : p.busy ≤ p.alive) (hc : p.accepted = p.finished + p.busy + p.sleeping) :
    p.settle.Inv := by
  refine ⟨?_, ?_, ?_⟩ <;> simp only [settle] <;> omega

/-- The arithmetic of `remove n` with `a` alive and `b ≤ a` busy workers: `k` workers go, `fb` of them
busy (what `k` exceeds the idle ones by), so busy workers are only taken once no idle one is left.
Stated over variables: `omega` on the record projections of `step` is several times dearer. -/
theorem Pool.remove_arith {a b n : Nat} (hb : b ≤ a) :
    let k := min n a
    let fb := k - min k (a - b)
    fb ≤ b ∧ b - fb ≤ a - k ∧ (b = a → b - fb = a - k) := by
  intro k fb
  have hk : k ≤ a := Nat.min_le_right ..
  have hf : fb = k - (a - b) := by omega
  clear_value k fb
  omega

theorem Pool.step_inv (p : Pool) (op : POp) (h : p.Inv) : (p.step op).Inv := by
  obtain ⟨hb, hw, hc⟩ := h
  cases op with
  | dispatch => exact settle_inv hb hc
  | finishAlive =>
    simp only [step]
    split
    · exact ⟨hb, hw, hc⟩
    · exact settle_inv (by simp only; omega) (by simp only; omega)
  | finishSleeping =>
    simp only [step]
    split
    · exact ⟨hb, hw, hc⟩
    · exact ⟨hb, hw, by simp only; omega⟩
  | add n => exact settle_inv (Nat.le_add_right_of_le hb) hc
  | remove n =>
    obtain ⟨h1, h2, h3⟩ := remove_arith (n := n) hb
    exact ⟨h2, fun hpos => h3 (hw hpos), by simp only [step]; omega⟩
  | cancelWaiting =>
    simp only [step]
    split
    · exact ⟨hb, hw, hc⟩
    · exact ⟨hb, fun hpos => hw (Nat.lt_of_lt_of_le hpos (Nat.sub_le ..)), hc⟩

theorem Pool.run_inv {p : Pool} (h : p.Inv) (ops : List POp) : (Pool.run p ops).Inv := by
  induction ops generalizing p with
  | nil => exact h
  | cons op rest ih => exact ih (Pool.step_inv p op h)

/-- C08_bound: for every sequence of dispatches, completions, resizes and cancellations the number of
work functions running at the same time never exceeds the alive workers plus those removed while busy;
with no resize in progress (`sleeping = 0`) it never exceeds `alive` = n. -/
theorem C08_bound (ops : List POp) :
    let p := Pool.run {} ops
    p.Inv ∧ p.running ≤ p.alive + p.sleeping ∧ (p.sleeping = 0 → p.running ≤ p.alive) := by
  have hi := Pool.run_inv Pool.inv_init ops
  have := hi.busy_le
  exact ⟨hi, by simp only [running]; omega, by intro hs; simp only [running, hs]; omega⟩

/-- C08_backpressure: a dispatch is accepted only when an idle alive worker exists; with none it
neither returns nor runs anything until a completion, a resize or its cancellation. -/
theorem C08_backpressure (p : Pool) (h : p.Inv) (hfull : p.busy = p.alive) :
    (p.step .dispatch).waiting = p.waiting + 1 ∧ (p.step .dispatch).accepted = p.accepted ∧
    (p.step .dispatch).running = p.running := by
  simp only [step, settle, running, hfull]
  refine ⟨by simp, by simp, by simp⟩

theorem C08_accept_when_idle (p : Pool) (h : p.Inv) (hidle : p.busy < p.alive) :
    (p.step .dispatch).waiting = 0 ∧ (p.step .dispatch).accepted = p.accepted + 1 ∧
    (p.step .dispatch).running = p.running + 1 := by
  have hw : p.waiting = 0 := by have := h.waiting_full; omega
  simp only [step, settle, running, hw]
  refine ⟨by omega, by omega, by omega⟩

/-- cancelling a blocked dispatch returns the context error and runs nothing -/
theorem C08_cancel_waiting (p : Pool) (hw : p.waiting > 0) :
    (p.step .cancelWaiting).cancelled = p.cancelled + 1 ∧ (p.step .cancelWaiting).accepted = p.accepted ∧
    (p.step .cancelWaiting).running = p.running := by
  simp only [step, running]
  split
  · omega
  · exact ⟨rfl, rfl, rfl⟩

/-- C08_resize: adding / removing workers changes the bound accordingly without losing or duplicating a
dispatched item (`conserve` is part of the invariant); removal never interrupts a running item. -/
theorem C08_resize (p : Pool) (n : Nat) (h : p.Inv) :
    (p.step (.remove n)).alive = p.alive - min n p.alive ∧
    (p.step (.remove n)).running = p.running ∧
    (p.step (.add n)).alive = p.alive + n ∧
    (p.step (.remove n)).Inv ∧ (p.step (.add n)).Inv := by
  refine ⟨rfl, ?_, rfl, Pool.step_inv p _ h, Pool.step_inv p _ h⟩
  have := (remove_arith (n := n) h.busy_le).1
  simp only [step, running]; omega

/-- non-vacuity: 2 workers, 3 dispatches: two run, one waits; after a completion the third runs. -/
example : (Pool.run {} [.add 2, .dispatch, .dispatch, .dispatch]).running = 2 ∧
    (Pool.run {} [.add 2, .dispatch, .dispatch, .dispatch]).waiting = 1 ∧
    (Pool.run {} [.add 2, .dispatch, .dispatch, .dispatch, .finishAlive]).waiting = 0 ∧
    (Pool.run {} [.add 2, .dispatch, .dispatch, .remove 2, .finishSleeping]).running = 1 := by decide

end Gk
