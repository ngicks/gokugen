/-
C03 — no work function starts before the scheduled time of the task record handed to it.

FALSE in general (open finding D3i): the scheduler dispatches the *copy* of the task it read earlier;
if the user postpones the task between that read and `MarkAsDispatched`, the work function starts
with the postponed record before its time. PROVED for every script in which no update changes the
scheduled time of the task whose copy the scheduler currently holds (`World.heldId`).
-/
import Gk.Proofs.World
namespace Gk
open World WP

/-- C03 as demanded. -/
def C03_full : Prop :=
  ∀ (t0 : Time) (acts : List Act), (init t0).Script acts → ((init t0).run acts).noEarlyStart = true

namespace C03

def t0 : Time := 63808128000000000000
def sec : Time := 1000000000

def pT : Param := { workId := some "w", scheduledAt := some (t0 + 10 * sec) }

/-- start the timer, add `t` (due at 10 s), advance to 40 s, Step announces `t` -/
def announce : List Act :=
  [ .user .start none, .user (.add "t" pT) none, .advance (t0 + 40 * sec),
    .sched .beginStep, .sched .lastTimerErr, .sched .selTimer, .sched (.getNext .none),
    .sched .nextScheduled ]

def postpone : Act := .user (.update "t" { scheduledAt := some (t0 + 50 * sec) }) none

def dispatch : List Act :=
  [ .sched .beginStep, .sched .lastTimerErr, .sched (.waitWorker true),
    .sched (.markDispatched .none none), .sched (.getById .none) ]

/-- D3i: the task is postponed to 50 s after it was announced (held in `lastTask`) -/
def d3i : List Act := announce ++ [postpone] ++ dispatch

/-- variant: postponed between `GetNext` and `NextScheduled` (held by the program counter); the hook
keeps its cached head (it only marks the cache stale), so the `NextScheduled` comparison passes -/
def d3iPc : List Act :=
  [ .user .start none, .user (.add "t" pT) none, .advance (t0 + 40 * sec),
    .sched .beginStep, .sched .lastTimerErr, .sched .selTimer, .sched (.getNext .none),
    postpone, .sched .nextScheduled ] ++ dispatch

/-- variant: postponed while a failed dispatch (`DispatchErr`, no worker) awaits its `Retry` -/
def d3iRet : List Act :=
  announce ++
  [ .sched .beginStep, .sched .lastTimerErr, .sched (.waitWorker false), postpone,
    .sched .beginRetry, .sched (.getById .none), .sched (.waitWorker true),
    .sched (.markDispatched .none none), .sched (.getById .none) ]

end C03

/-- D3i witness: the work function of `t` starts at 40 s with a record scheduled at 50 s. -/
theorem C03_D3i_witness :
    (init C03.t0).Script C03.d3i ∧
    (((init C03.t0).run C03.d3i).log.map (fun e => (e.id, e.at_, e.task.scheduledAt, e.task.state)))
      = [("t", C03.t0 + 40 * C03.sec, C03.t0 + 50 * C03.sec, .dispatched)] ∧
    ((init C03.t0).run C03.d3i).noEarlyStart = false := by
  decide

theorem C03_full_false : ¬ C03_full := by
  intro h
  have h1 := h C03.t0 C03.d3i C03_D3i_witness.1
  rw [C03_D3i_witness.2.2] at h1
  cases h1

/-- each of the three places a copy is held in is a real trigger -/
theorem C03_D3i_variants :
    ((init C03.t0).Script C03.d3iPc ∧ ((init C03.t0).run C03.d3iPc).noEarlyStart = false) ∧
    ((init C03.t0).Script C03.d3iRet ∧ ((init C03.t0).run C03.d3iRet).noEarlyStart = false) := by
  decide

/-- the scripts above do postpone the held task -/
example : ¬ (init C03.t0).NoPostpone C03.d3i ∧ ¬ (init C03.t0).NoPostpone C03.d3iPc ∧
    ¬ (init C03.t0).NoPostpone C03.d3iRet := by decide

/-- **C03 (partial).** If no update of the script changes the scheduled time of the task whose copy the
scheduler holds at that moment, no work function starts before the scheduled time of its record. -/
theorem C03_partial (t0 : Time) (acts : List Act) (hs : (init t0).Script acts)
    (hp : (init t0).NoPostpone acts) : ((init t0).run acts).noEarlyStart = true :=
  List.all_eq_true.mpr fun e he => decide_eq_true ((TInv_run (Inv_init t0) (TInv_init t0) hs hp).early e he)

/-- what the proof rests on: whatever the scheduler holds is stored and due -/
theorem C03_held_is_due (t0 : Time) (acts : List Act) (hs : (init t0).Script acts)
    (hp : (init t0).NoPostpone acts) (t : Task) (cur : Task)
    (hpc : ∀ t', ((init t0).run acts).pc ≠ .s_nextSched t')
    (hh : ((init t0).run acts).held = some t)
    (hl : ((init t0).run acts).obs.repo.lookup t.id = some cur) :
    cur.scheduledAt ≤ ((init t0).run acts).obs.clock.now := by
  have hT := TInv_run (Inv_init t0) (TInv_init t0) hs hp
  exact Int.le_trans (hT.stored t hh cur hl) ((hT.due t hh).resolve_left (hpc t))

/-- Non-vacuity: a script with `Script` and `NoPostpone` (it even contains an update of the held task
that does not touch the time, and an update of the time before the task is held) that starts a work
function, at 40 s for a record scheduled at 20 s. -/
example :
    let s := [ Act.user (.add "t" C03.pT) none,
               .user (.update "t" { scheduledAt := some (C03.t0 + 20 * C03.sec) }) none,
               .user .start none,
               .advance (C03.t0 + 40 * C03.sec),
               .sched .beginStep, .sched .lastTimerErr, .sched .selTimer, .sched (.getNext .none),
               .sched .nextScheduled, .user (.update "t" { priority := some 7 }) none ] ++ C03.dispatch
    (init C03.t0).Script s ∧ (init C03.t0).NoPostpone s ∧
    (((init C03.t0).run s).log.map (fun e => (e.id, e.at_, e.task.scheduledAt, e.task.priority)))
      = [("t", C03.t0 + 40 * C03.sec, C03.t0 + 20 * C03.sec, 7)] := by
  decide

/-- the code before the due check was added to the timer branch (everything else repaired) -/
def C03.d3iiInit : World := { init C03.t0 with fix := { dueCheck := false } }

/-- the timer fires for `a` (10 s) at 40 s; before `GetNext` the user cancels `a` and adds `b`
(100 s): `GetNext` returns `b`, the hook's cache says `b` too, so the comparison passes -/
def C03.d3ii : List Act :=
  [ .user .start none, .user (.add "a" C03.pT) none, .advance (C03.t0 + 40 * C03.sec),
    .sched .beginStep, .sched .lastTimerErr, .sched .selTimer,
    .user (.cancel "a") none,
    .user (.add "b" { workId := some "w", scheduledAt := some (C03.t0 + 100 * C03.sec) }) none,
    .sched (.getNext .none), .sched .nextScheduled ] ++ C03.dispatch

/-- D3ii witness: without the due check `b` is started 60 s early although nobody postponed anything;
with the due check the same script announces nothing (`ErrScheduleStoppedOrChanged`). -/
theorem C03_D3ii_witness :
    C03.d3iiInit.Script C03.d3ii ∧ C03.d3iiInit.NoPostpone C03.d3ii ∧
    ((C03.d3iiInit.run C03.d3ii).log.map (fun e => (e.id, e.at_, e.task.scheduledAt)))
      = [("b", C03.t0 + 40 * C03.sec, C03.t0 + 100 * C03.sec)] ∧
    (C03.d3iiInit.run C03.d3ii).noEarlyStart = false ∧
    ((init C03.t0).run C03.d3ii).log = [] ∧
    ((init C03.t0).run (C03.d3ii.take 10)).ret = .nextTask none (some .schedChanged) := by
  decide

end Gk
