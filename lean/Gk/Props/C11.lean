/-
C11 — `Find`: the offset / limit loop returns a contiguous window of the matching tasks, listed
oldest-created first (`byCreated`), and the transcribed matcher (`Query.normalize` + `Query.matches`) equals a
declarative statement of the documented matching rules (`MatchesDoc`).
-/
import Gk.Basic
import Gk.Query
import Gk.Repo
import Gk.Proofs.Find
import Gk.Proofs.ByCreated
namespace Gk

/-- With a negative offset the Go loop never emits anything: `offset != 0` holds for ever, so every
match is consumed by `offset--; continue`. -/
theorem C11_loop_neg (pred : Task → Bool) (ts : List Task) (offset limit : Int) (h : offset < 0) :
    findLoop pred ts offset limit = [] :=
  findLoop_neg pred ts offset limit h

/-- The loop = filter, drop `offset`, take `limit` (negative limit = unlimited, `0` = empty). -/
theorem C11_loop (pred : Task → Bool) (ts : List Task) (offset limit : Int) (h : 0 ≤ offset) :
    findLoop pred ts offset limit = takeLim limit ((ts.filter pred).drop offset.toNat) :=
  findLoop_eq pred ts offset limit h

/-- Test tasks for the non-vacuity examples: only the priority varies. -/
def exTask (id : String) (prio : Int) : Task := { Task.blank id 1000000 with priority := prio }

/-- Non-vacuity of `C11_loop`: six tasks, four of them match, offset 1, limit 2. -/
example :
    findLoop (fun t => decide (t.priority > 0))
      [exTask "a" 1, exTask "b" 0, exTask "c" 2, exTask "d" 3, exTask "e" 0, exTask "f" 4] 1 2
      = [exTask "c" 2, exTask "d" 3] := by decide

example :
    takeLim 2 ((([exTask "a" 1, exTask "b" 0, exTask "c" 2, exTask "d" 3, exTask "e" 0,
      exTask "f" 4].filter (fun t => decide (t.priority > 0))).drop (1 : Int).toNat))
      = [exTask "c" 2, exTask "d" 3] := by decide

/-- Negative limit = unlimited; limit 0 = nothing; negative offset = nothing. -/
example :
    findLoop (fun t => decide (t.priority > 0)) [exTask "a" 1, exTask "b" 0, exTask "c" 2] 1 (-1)
      = [exTask "c" 2] ∧
    findLoop (fun t => decide (t.priority > 0)) [exTask "a" 1, exTask "b" 0, exTask "c" 2] 0 0
      = [] ∧
    findLoop (fun t => decide (t.priority > 0)) [exTask "a" 1, exTask "b" 0, exTask "c" 2] (-1) 5
      = [] := by decide

/-- Results come in the order of the list the loop walks (a sublist of it) and all satisfy the predicate.
No side condition on `offset` / `limit`. -/
theorem C11_order (pred : Task → Bool) (ts : List Task) (offset limit : Int) :
    (findLoop pred ts offset limit).Sublist ts ∧
      ∀ t ∈ findLoop pred ts offset limit, pred t = true :=
  ⟨(findLoop_sublist ..).trans List.filter_sublist,
    fun _ ht => (List.mem_filter.mp ((findLoop_sublist ..).subset ht)).2⟩

/-- The result is a contiguous window of the list of matching tasks, starting `offset` in. -/
theorem C11_window (pred : Task → Bool) (ts : List Task) (offset limit : Int) (h : 0 ≤ offset) :
    ∃ pre post, ts.filter pred = pre ++ findLoop pred ts offset limit ++ post ∧
      pre.length = min offset.toNat (ts.filter pred).length := by
  rw [C11_loop _ _ _ _ h]
  obtain ⟨post, hpost⟩ := takeLim_prefix limit ((ts.filter pred).drop offset.toNat)
  refine ⟨(ts.filter pred).take offset.toNat, post, ?_, List.length_take⟩
  rw [List.append_assoc, ← hpost, List.take_append_drop]

/-- Non-vacuity of `C11_window`: the window `[c, d]` sits between `[a]` and `[f]`. -/
example :
    [exTask "a" 1, exTask "b" 0, exTask "c" 2, exTask "d" 3, exTask "e" 0, exTask "f" 4].filter
        (fun t => decide (t.priority > 0))
      = [exTask "a" 1] ++
        findLoop (fun t => decide (t.priority > 0))
          [exTask "a" 1, exTask "b" 0, exTask "c" 2, exTask "d" 3, exTask "e" 0, exTask "f" 4] 1 2
        ++ [exTask "f" 4] := by decide

/-- `strings.Contains`. -/
theorem C11_isInfixOf (n h : List Char) : isInfixOf n h = true ↔ ∃ a b, h = a ++ n ++ b :=
  isInfixOf_iff n h

/-- `strings.HasPrefix`. -/
theorem C11_isPrefixOf (n h : List Char) : n.isPrefixOf h = true ↔ ∃ b, h = n ++ b :=
  List.isPrefixOf_iff_prefix.trans (exists_congr fun _ => eq_comm)

/-- `strings.HasSuffix`. -/
theorem C11_isSuffixOf (n h : List Char) : n.isSuffixOf h = true ↔ ∃ a, h = a ++ n :=
  List.isSuffixOf_iff_suffix.trans (exists_congr fun _ => eq_comm)

/-- The list-level relations used in `MapMatcherDoc`, read back on `String`s. -/
theorem C11_prefix_string (p s : String) : p.toList <+: s.toList ↔ ∃ r, s = p ++ r := by
  constructor
  · rintro ⟨r, hr⟩
    exact ⟨String.ofList r, String.toList_inj.mp (by simp [String.toList_append, hr])⟩
  · rintro ⟨r, rfl⟩; exact ⟨r.toList, by simp [String.toList_append]⟩

theorem C11_suffix_string (p s : String) : p.toList <:+ s.toList ↔ ∃ l, s = l ++ p := by
  constructor
  · rintro ⟨l, hl⟩
    exact ⟨String.ofList l, String.toList_inj.mp (by simp [String.toList_append, hl])⟩
  · rintro ⟨l, rfl⟩; exact ⟨l.toList, by simp [String.toList_append]⟩

theorem C11_infix_string (p s : String) : p.toList <:+: s.toList ↔ ∃ l r, s = l ++ p ++ r := by
  constructor
  · rintro ⟨l, r, h⟩
    exact ⟨String.ofList l, String.ofList r,
      String.toList_inj.mp (by simp [String.toList_append, ← h])⟩
  · rintro ⟨l, r, rfl⟩; exact ⟨l.toList, r.toList, by simp [String.toList_append]⟩

/-- Scalar field (`id`, `work_id`, `priority`, `state`, `err`): unset, or equal. -/
def ScalarDoc {α} (want : Option α) (stored : α) : Prop :=
  match want with
  | none => True
  | some w => stored = w

/-- One `MapMatcher` against a stored map. An absent key satisfies no matcher. -/
def MapMatcherDoc (m : MapMatcher) (map : SMap) : Prop :=
  match SMap.lookup map m.key with
  | none => False
  | some v =>
    match m.matchType with
    | .hasKey => True
    | .exact | .other => v = m.value                     -- unknown / empty type: Exact
    | .forward => m.value.toList <+: v.toList            -- `m.value` is a prefix of `v`
    | .backward => m.value.toList <:+ v.toList           -- … a suffix
    | .middle => m.value.toList <:+: v.toList            -- … a contiguous substring

/-- Map field (`param`, `meta`): unset, or every matcher holds. -/
def MapFieldDoc (want : Option (List MapMatcher)) (stored : SMap) : Prop :=
  match want with
  | none => True
  | some ms => ∀ m ∈ ms, MapMatcherDoc m stored

/-- One `TimeMatcher` against a stored (possibly null) time; the operand is normalised to
millisecond precision first. A null stored value satisfies no matcher. -/
def TimeMatcherDoc (m : TimeMatcher) (stored : Option Time) : Prop :=
  match stored with
  | none => False
  | some v =>
    let x := normalize m.value
    match m.matchType with
    | .nonNull => True
    | .equal | .other => v = x                           -- unknown type: Equal
    | .before => v < x
    | .beforeEqual => v ≤ x
    | .after => v > x
    | .afterEqual => v ≥ x

/-- Mandatory time field (`scheduled_at`, `created_at`): unset, or the matcher holds. -/
def TimeFieldDoc (want : Option TimeMatcher) (stored : Time) : Prop :=
  match want with
  | none => True
  | some m => TimeMatcherDoc m (some stored)

/-- Optional time field (`deadline`, `cancelled_at`, `dispatched_at`, `done_at`):
unset; or `Some(None)` = "is null"; or the matcher holds. -/
def OptTimeFieldDoc (want : Option (Option TimeMatcher)) (stored : Option Time) : Prop :=
  match want with
  | none => True
  | some none => stored = none
  | some (some m) => TimeMatcherDoc m stored

/-- The documented meaning of `TaskQueryParam` (all set fields must hold). -/
def MatchesDoc (q : Query) (t : Task) : Prop :=
  ScalarDoc q.id t.id ∧
  ScalarDoc q.workId t.workId ∧
  ScalarDoc q.priority t.priority ∧
  ScalarDoc q.state t.state.name ∧
  ScalarDoc q.err t.err ∧
  MapFieldDoc q.param t.param ∧
  MapFieldDoc q.meta_ t.meta_ ∧
  TimeFieldDoc q.scheduledAt t.scheduledAt ∧
  TimeFieldDoc q.createdAt t.createdAt ∧
  OptTimeFieldDoc q.deadline t.deadline ∧
  OptTimeFieldDoc q.cancelledAt t.cancelledAt ∧
  OptTimeFieldDoc q.dispatchedAt t.dispatchedAt ∧
  OptTimeFieldDoc q.doneAt t.doneAt

theorem matchEq_iff {α} [BEq α] [LawfulBEq α] (v : α) (q : Option α) :
    matchEq v q = true ↔ ScalarDoc q v := by
  cases q <;> simp [matchEq, ScalarDoc]

theorem mapMatcher_iff (m : MapMatcher) (map : SMap) :
    m.matches map = true ↔ MapMatcherDoc m map := by
  obtain ⟨k, val, mt⟩ := m
  unfold MapMatcher.matches MapMatcherDoc
  cases SMap.lookup map k <;> cases mt <;> simp [MapMatchType.get, isInfixOf_iff_infix]

theorem matchMap_iff (v : SMap) (q : Option (List MapMatcher)) :
    matchMap v q = true ↔ MapFieldDoc q v := by
  cases q <;> simp [matchMap, MapFieldDoc, mapMatcher_iff]

theorem timeMatcher_iff (m : TimeMatcher) (v : Option Time) :
    m.normalize.matches v = true ↔ TimeMatcherDoc m v := by
  obtain ⟨mt, x⟩ := m
  cases v <;> cases mt <;>
    simp [TimeMatcher.matches, TimeMatcher.normalize, TimeMatchType.get, TimeMatcherDoc] <;>
    first | exact eq_comm | exact decide_eq_true_iff

theorem matchTime_iff (v : Time) (q : Option TimeMatcher) :
    matchTime v (q.map TimeMatcher.normalize) = true ↔ TimeFieldDoc q v := by
  cases q <;> simp [matchTime, TimeFieldDoc, timeMatcher_iff]

theorem matchOptTime_iff (v : Option Time) (q : Option (Option TimeMatcher)) :
    matchOptTime v (q.map (·.map TimeMatcher.normalize)) = true ↔ OptTimeFieldDoc q v := by
  rcases q with _ | _ | m <;> simp [matchOptTime, OptTimeFieldDoc, timeMatcher_iff]

/-- The transcribed matcher (normalise the query, then `Match`) is exactly the documented one. -/
theorem C11_match_spec (q : Query) (t : Task) :
    (q.normalize true).matches t = true ↔ MatchesDoc q t := by
  simp only [Query.matches, Query.normalize, if_true, Bool.and_eq_true, MatchesDoc, matchEq_iff,
    matchMap_iff, matchTime_iff, matchOptTime_iff, and_assoc]

instance (q : Query) (t : Task) : Decidable (MatchesDoc q t) :=
  decidable_of_iff _ (C11_match_spec q t)

theorem C11_match_spec_bool (q : Query) (t : Task) :
    decide (MatchesDoc q t) = (q.normalize true).matches t := by
  rw [Bool.eq_iff_iff]; simp [C11_match_spec]

/-- A query that uses every kind of rule. -/
def exQuery : Query :=
  { workId := some "mail"
    state := some "scheduled"
    param := some [⟨"to", "alice@", .forward⟩, ⟨"to", ".org", .backward⟩, ⟨"body", "ell", .middle⟩,
                   ⟨"cc", "", .hasKey⟩, ⟨"cc", "bob", .other⟩]
    scheduledAt := some ⟨.beforeEqual, 7000999⟩       -- operand is truncated to 7000000
    createdAt := some ⟨.after, 999999⟩                -- truncated to 0
    deadline := some (some ⟨.equal, 9000500⟩)          -- truncated to 9000000
    cancelledAt := some none                           -- must be null
    doneAt := none }

def exMatching : Task :=
  { Task.blank "t1" 1000000 with
    workId := "mail"
    param := [("body", "hello"), ("cc", "bob"), ("to", "alice@example.org")]
    scheduledAt := 7000000
    deadline := some 9000000 }

example : exMatching.wellFormed = true := by decide

theorem exMatching_matches : (exQuery.normalize true).matches exMatching = true := by decide

example : MatchesDoc exQuery exMatching := (C11_match_spec ..).mp exMatching_matches
example : (exQuery.normalize true).matches exMatching = true := exMatching_matches

/-- Each single deviation is rejected (by the spec and hence by the code): the proof names the rule of
`MatchesDoc` that fails. -/
example : ¬ MatchesDoc exQuery { exMatching with scheduledAt := 7001000 } :=
  fun h => absurd ((matchTime_iff ..).mpr h.2.2.2.2.2.2.2.1) (by decide)
example : ¬ MatchesDoc exQuery { exMatching with deadline := none } :=
  fun h => h.2.2.2.2.2.2.2.2.2.1
example : ¬ MatchesDoc exQuery { exMatching with cancelledAt := some 8000000 } :=
  fun h => nomatch h.2.2.2.2.2.2.2.2.2.2.1
example : ¬ MatchesDoc exQuery { exMatching with state := .dispatched } :=
  fun h => absurd ((matchEq_iff ..).mpr h.2.2.2.1) (by decide)
example : ¬ MatchesDoc exQuery
    { exMatching with param := [("body", "hello"), ("to", "alice@example.org")] } :=
  fun h => absurd ((mapMatcher_iff ..).mpr (h.2.2.2.2.2.1 ⟨"cc", "", .hasKey⟩ (by simp))) (by decide)
example : ¬ MatchesDoc exQuery
    { exMatching with param := [("body", "help"), ("cc", "bob"), ("to", "alice@example.org")] } :=
  fun h => absurd ((mapMatcher_iff ..).mpr (h.2.2.2.2.2.1 ⟨"body", "ell", .middle⟩ (by simp))) (by decide)

theorem C11_find_spec (r : Repo) (now : Time) (q : Query) (off lim : Int) (h : 0 ≤ off) :
    (Repo.step {} r now (.find q off lim)).2 =
      .tasks (takeLim lim (((byCreated r.tasks).filter (fun t => decide (MatchesDoc q t))).drop off.toNat)) := by
  rw [funext (C11_match_spec_bool q)]
  exact congrArg Out.tasks (findLoop_eq _ _ _ _ h)

/-- "oldest-created first": the list `Find` windows is the stored tasks sorted by creation time -
a permutation of the store, non-decreasing in `created_at`, tasks of one creation time in insertion
order; under a clock that never stepped back it is the insertion order itself. -/
theorem C11_oldest_first (ts : List Task) :
    (byCreated ts).Perm ts ∧ (byCreated ts).Pairwise (fun a b => a.createdAt ≤ b.createdAt) ∧
    (∀ c : Time, (byCreated ts).filter (fun x => x.createdAt == c) = ts.filter (fun x => x.createdAt == c)) ∧
    (ts.Pairwise (fun a b => a.createdAt ≤ b.createdAt) → byCreated ts = ts) :=
  ⟨byCreated_perm ts, byCreated_sorted ts, byCreated_stable ts, byCreated_of_sorted ts⟩

/-- Non-vacuity / the situation of defect D20: the clock stepped back between two additions; the task
added later but created earlier is listed first. -/
example :
    let a : Task := { Task.blank "a" 5000000 with workId := "w", scheduledAt := 9000000 }
    let b : Task := { Task.blank "b" 2000000 with workId := "w", scheduledAt := 9000000 }
    (byCreated [a, b]).map (·.id) = ["b", "a"] ∧
    ((Repo.step {} ⟨[a, b]⟩ 0 (.find {} 0 1)).2 = .tasks [b]) := by decide

/-- `Find` does not change the repository. -/
theorem C11_find_readonly (fl : Flags) (r : Repo) (now : Time) (q : Query) (off lim : Int) :
    (Repo.step fl r now (.find q off lim)).1 = r := rfl

/-! D6: the pinned source does not normalise the `Deadline` operand. -/

def d6Query : Query := { deadline := some (some ⟨.equal, 5000000 + 500⟩) }

def d6Task : Task :=
  { Task.blank "t" 1000000 with workId := "w", scheduledAt := 2000000, deadline := some 5000000 }

/-- A well-formed (in particular normalised) task whose deadline is the millisecond the query asks
for is missed by the pre-fix matcher and found by the fixed one. -/
theorem C11_D6_witness :
    d6Task.wellFormed = true ∧ d6Task.timesNormalized = true ∧
    (d6Query.normalize false).matches d6Task = false ∧
    (d6Query.normalize true).matches d6Task = true := by decide

end Gk
