/-
Tie theorems, package `mutator` (decode logic): `parseDur`, `DecodeRandomizeScheduledAt`, `DecodeScheduleAtNow`,
`ScheduleAtNow.Mutate` as generated from the CURRENT Go sources (Gk/Gen/Mutator.lean) equal the hand-written model
`Gk.Mut` (Gk/Mut.lean) that C18's theorems are about. `time.ParseDuration` / `strconv.ParseInt` are oracles on both
sides: `oracleOf` is the model's per-string `ParseOracle` read off the Go-side oracle functions.
-/
import Gk.Gen.Mutator
import Gk.Mut
import Gk.Props.TieDef
namespace Gk.Tie
open Gk Gk.Gen Gk.Gen.Mutator

def oracleOf [o : Go.Oracles] (s : String) : Mut.ParseOracle :=
  { dur := if (o.parseDuration s).2.isNone then some (o.parseDuration s).1 else none
    int := if (o.parseInt s).2.isNone then some (o.parseInt s).1 else none }

variable [o : Go.Oracles]

theorem tie_parseDur (s : String) :
    (if (parseDur s).2.isNone then some (parseDur s).1 else none) = Mut.parseDur s (oracleOf s) := by
  unfold parseDur Mut.parseDur oracleOf Go.time_ParseDuration Go.strconv_ParseInt
  by_cases hs : s = ""
  · simp [hs, go_rt]
  · rcases hd : o.parseDuration s with ⟨d, ed⟩
    rcases hi : o.parseInt s with ⟨i, ei⟩
    cases ed <;> cases ei <;> simp [hs, go_rt, Go.fmtErrorf]

/-- a failed `parseDur` returns a non-nil error (never a silent zero) -/
theorem tie_parseDur_err (s : String) : (parseDur s).2.isSome ↔ Mut.parseDur s (oracleOf s) = none := by
  rw [← tie_parseDur]; cases (parseDur s).2 <;> simp

/-- what `DecodeRandomizeScheduledAt` returns, read as the model's result type -/
def absDecode (r : RandomizeScheduledAt × Bool × GoError) : Except Unit (Option Mut.Mutator) :=
  if r.2.2.isSome then .error () else if r.2.1 then .ok (some (.randomize r.1.Min r.1.Max)) else .ok none

theorem mapLookup_absent (m : SMap) (k : String) (h : (Go.mapLookup m k).2 = false) : (Go.mapLookup m k).1 = "" := by
  unfold Go.mapLookup at *; cases hl : SMap.lookup m k <;> simp_all

theorem tie_DecodeRandomizeScheduledAt (m : SMap) :
    absDecode (DecodeRandomizeScheduledAt m) =
      Mut.decodeRandomize m
        (oracleOf ((Go.mapLookup m Mut.labelMin).1)) (oracleOf ((Go.mapLookup m Mut.labelMax).1)) := by
  have e1 : Mut.labelMax = LabelRandomizeScheduledAtMax := rfl
  have e2 : Mut.labelMin = LabelRandomizeScheduledAtMin := rfl
  simp only [DecodeRandomizeScheduledAt, Mut.decodeRandomize, Go.lookup_of_mapLookup, e1, e2]
  rcases Go.mapLookup m LabelRandomizeScheduledAtMax with ⟨mx, okx⟩
  rcases Go.mapLookup m LabelRandomizeScheduledAtMin with ⟨mn, okn⟩
  cases okx <;> cases okn <;> simp only [← tie_parseDur, Bool.false_eq_true, if_true, if_false] <;>
    rcases parseDur mx with ⟨dx, ex⟩ <;> rcases parseDur mn with ⟨dn, en⟩ <;> cases ex <;> cases en <;> rfl

/-- `DecodeScheduleAtNow`: found iff the label is present; never an error -/
theorem tie_DecodeScheduleAtNow (m : SMap) :
    (DecodeScheduleAtNow m).2.1 = (SMap.lookup m Mut.labelNow).isSome ∧ (DecodeScheduleAtNow m).2.2 = none := by
  have e : Mut.labelNow = LabelScheduleAtNow := rfl
  unfold DecodeScheduleAtNow
  simp only [Go.lookup_of_mapLookup, e]
  by_cases h : (Go.mapLookup m LabelScheduleAtNow).2 = true <;> simp [h, go_rt]

/-- `ScheduleAtNow.Mutate`: ScheduledAt = clock.Now(), then Normalize -/
theorem tie_ScheduleAtNow_Mutate (x : ScheduleAtNow) (p : Gk.Param) :
    x.Mutate (toGenP p) = toGenP (Mut.mutateNow o.now p) := by
  unfold ScheduleAtNow.Mutate Mut.mutateNow
  rw [← tie_Param_Normalize]
  rfl

end Gk.Tie
