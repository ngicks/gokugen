/-
C03 / C04 / C15 in the cron configuration (Scheduler over `volatileTaskRepo` over the cron store, model
`Gk.CWorld`): what IS true, for every action sequence.

The quantification is over every `List ActC` — scheduler calls in any order (a call that is not enabled
at the current `pc` only sets `stuck`), `Step` / `Retry` in any order, faults `Fault.before` /
`Fault.after` on every repository call, context cancellation, busy workers, time advances, completions
and user `EditTask`s at every moment — from every initial world satisfying `CWorld.Init`
(`Gk/Proofs/WorldCron.lean`): scheduler idle with empty log / running / completed / record / popped,
`lastTask = none`, `ret = zero`, `fix = {}`, and a cron store (repaired code, `fixed = true`) whose
pending occurrences have pairwise distinct ranks, all `≤ counter`, all in state scheduled.

* A (C03) and B (C04, state at entry) hold for ALL action sequences, the D18 interleaving included.
* C (`ranArePopped`, `atMostOnce`) is FALSE for all action sequences (D18: `Gk/Props/C04cron.lean`, and
  `C04cron_unrestricted_false` below) and PROVED for every `AtomicMark` script: no `EditTask` is taken
  while `pc = d_markPop _`, i.e. between the Peek and the Pop of `volatileTaskRepo.MarkAsDispatched`.
  Nothing else is assumed (no driver discipline on `Step` / `Retry`).
-/
import Gk.Proofs.WorldCron
import Gk.Proofs.Task
import Gk.Props.C04cron
namespace Gk
open CWorld

/-! ### A. C03: no work function starts before the scheduled time of its record -/

/-- **C03 (cron configuration), every action sequence.** Each logged start has
`task.scheduledAt ≤ at_`. -/
theorem C03cron_no_early_start (w : CWorld) (hi : w.Init) (acts : List ActC) :
    (w.run acts).noEarlyStart = true :=
  List.all_eq_true.mpr fun e he => decide_eq_true ((InvA_run (InvA_init hi) acts).early e he)

/-- what the proof rests on: whatever copy the scheduler holds after the due check (remembered in
`lastTask`, carried by the program counter from `d_wait` on, or returned in a `DispatchErr` awaiting
`Retry`), the record stored under its id is due by the scheduler's clock -/
theorem C03cron_held_is_due (w : CWorld) (hi : w.Init) (acts : List ActC) (t cur : Task)
    (hh : Holds (w.run acts).pc (w.run acts).lastTask (w.run acts).ret t)
    (hl : (w.run acts).v.lookup t.id = some cur) : cur.scheduledAt ≤ (w.run acts).now :=
  (InvA_run (InvA_init hi) acts).due t hh cur hl

/-- Non-vacuity: `D18.init` is an initial world, and both the quiet and the raced dispatch start a work
function (at 4 ms, for a record scheduled at 3 ms). -/
example : D18.init.Init ∧
    ((D18.init.run (D18.announce ++ D18.dispatch)).log.map
      (fun e => (e.id, e.at_, e.task.scheduledAt))) = [("#1", 4000000, 3000000)] ∧
    ((D18.init.run (D18.announce ++ D18.dispatchRaced)).log.map
      (fun e => (e.id, e.at_, e.task.scheduledAt))) = [("#1", 4000000, 3000000)] := by
  decide

/-! ### B. C04: the record handed to the work function is in state dispatched -/

/-- **C04, state at entry (cron configuration), every action sequence.** -/
theorem C04cron_dispatched_at_entry (w : CWorld) (hi : w.Init) (acts : List ActC) :
    (w.run acts).dispatchedAtEntry = true :=
  List.all_eq_true.mpr fun e he => beq_iff_eq.mpr ((InvA_run (InvA_init hi) acts).dispLog e he)

/-- Non-vacuity: also on the `Retry` path after a `MarkAsDispatched` that failed after taking effect
(the `Retry` skips marking), and in the D18 interleaving. -/
example :
    let faultThenRetry : List ActC :=
      [.sched .beginStep, .sched .lastTimerErr, .sched (.waitWorker true), .sched .peek, .sched .pop,
       .sched (.markDispatched .after), .sched .beginRetry, .sched (.getById .none),
       .sched (.waitWorker true), .sched (.getById .none)]
    D18.init.Init ∧
    ((D18.init.run (D18.announce ++ faultThenRetry)).log.map (fun e => (e.id, e.task.state)))
      = [("#1", .dispatched)] ∧
    ((D18.init.run (D18.announce ++ D18.dispatchRaced)).log.map (fun e => (e.id, e.task.state)))
      = [("#1", .dispatched)] := by
  decide

/-! ### C. C04 / C15: ran ⊆ popped, at most once — under `AtomicMark` -/

/-- The cron store never hands out the same occurrence twice — every action sequence (D18 included). -/
theorem C04cron_popped_distinct (w : CWorld) (hi : w.Init) (acts : List ActC) :
    (w.run acts).popped.Nodup :=
  (InvC_run (InvC_init hi) acts).popNodup

/-- Under `AtomicMark` the occurrence `Pop` removes is the one `Peek` named: whenever the scheduler is
between the two calls, the head of the cron store is the announced occurrence. -/
theorem C04cron_pop_removes_peeked (w : CWorld) (hi : w.Init) (acts : List ActC)
    (ha : w.AtomicMark acts) (t : Task) (hpc : (w.run acts).pc = .d_markPop t) :
    ∃ h, (w.run acts).v.cron.head = some h ∧ h.tid = t.id :=
  (InvD_run (InvA_init hi) (InvC_init hi) (InvD_init hi) ha).markPop t hpc

/-- **C04 / C15 (cron configuration), `AtomicMark` scripts.** Every occurrence whose work function
started is one the cron store handed out through `Pop`. -/
theorem C04cron_ran_are_popped (w : CWorld) (hi : w.Init) (acts : List ActC)
    (ha : w.AtomicMark acts) : (w.run acts).ranArePopped = true :=
  List.all_eq_true.mpr fun e he => List.contains_iff_mem.mpr
    ((InvD_run (InvA_init hi) (InvC_init hi) (InvD_init hi) ha).logPop e he)

/-- At most one work-function start per occurrence id. -/
theorem C04cron_at_most_once_nodup (w : CWorld) (hi : w.Init) (acts : List ActC)
    (ha : w.AtomicMark acts) : ((w.run acts).log.map (·.id)).Nodup :=
  (InvD_run (InvA_init hi) (InvC_init hi) (InvD_init hi) ha).logNodup

/-- **C04 (cron configuration), `AtomicMark` scripts.** No occurrence id is started twice (the boolean
monitor of `Gk.CWorld`). -/
theorem C04cron_at_most_once (w : CWorld) (hi : w.Init) (acts : List ActC)
    (ha : w.AtomicMark acts) : (w.run acts).atMostOnce = true := by
  unfold CWorld.atMostOnce
  rw [eraseDups_of_nodup _ (C04cron_at_most_once_nodup w hi acts ha)]
  simp

/-- Non-vacuity: the quiet announce + dispatch is an `AtomicMark` script from an initial world and
starts a work function; the D18 scripts are NOT `AtomicMark` (the edit lands at `d_markPop`). An edit at
any other moment is allowed: here one lands between `GetNext`'s Peek and its return, another between
the announcing and the dispatching `Step`. -/
example :
    D18.init.Init ∧
    D18.init.AtomicMark (D18.announce ++ D18.dispatch) ∧
    ((D18.init.run (D18.announce ++ D18.dispatch)).log.map (·.id)) = ["#1"] ∧
    ¬ D18.init.AtomicMark (D18.announce ++ D18.dispatchRaced) ∧
    ¬ D18.init.AtomicMark (D18.announce ++ D18.dispatchRaced ++ D18.announce ++ D18.dispatch) ∧
    (let editsElsewhere : List ActC :=
      [.sched .beginStep, .sched .lastTimerErr, .sched .selTimer, .sched .peek, .edit ["b"] [],
       .sched (.getNext .none), .sched .nextScheduled, .edit [] ["b"]] ++ D18.dispatch
     D18.init.AtomicMark editsElsewhere) := by
  decide

/-- Without `AtomicMark` both properties fail from an initial world (D18): the statements above cannot
be strengthened to all action sequences. -/
theorem C04cron_unrestricted_false :
    ¬ (∀ (w : CWorld), w.Init → ∀ acts : List ActC, (w.run acts).ranArePopped = true) ∧
    ¬ (∀ (w : CWorld), w.Init → ∀ acts : List ActC, (w.run acts).atMostOnce = true) := by
  have hi : D18.init.Init := by decide
  constructor
  · exact fun h => Bool.false_ne_true (C04_D18_witness.2.2.2.2.2.1.symm.trans (h D18.init hi _))
  · exact fun h => Bool.false_ne_true (C04_D18_runs_twice.2.2.1.symm.trans (h D18.init hi _))

#print axioms C03cron_no_early_start
#print axioms C03cron_held_is_due
#print axioms C04cron_dispatched_at_entry
#print axioms C04cron_popped_distinct
#print axioms C04cron_pop_removes_peeked
#print axioms C04cron_ran_are_popped
#print axioms C04cron_at_most_once_nodup
#print axioms C04cron_at_most_once
#print axioms C04cron_unrestricted_false

end Gk
