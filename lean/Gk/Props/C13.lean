/-
C13 — the recovery operations of the SQL repository (RevertDispatched, CancelDispatched), model level.
-/
import Gk.Proofs.Repo
import Gk.Proofs.Ghost
import Gk.Props.C12
namespace Gk

/-- `RevertDispatched` resets exactly the dispatched tasks to scheduled and clears `dispatched_at`. -/
theorem C13_revert_shape (r : Repo) (now : Time) :
    (Repo.step {} r now .revert).1.tasks =
      r.tasks.map (fun t =>
        if t.state == .dispatched then { t with state := .scheduled, dispatchedAt := none } else t) ∧
    (Repo.step {} r now .revert).2 = .ok :=
  ⟨rfl, rfl⟩

/-- After reverting, a formerly dispatched task behaves like a scheduled one; everything else is
untouched; the invariant is kept. -/
theorem C13_reverted_behaves_scheduled {r : Repo} {now now' : Time} {e : Option String} (h : r.WF) :
    let r' := (Repo.step {} r now .revert).1
    r'.WF ∧
    (∀ t ∈ r.tasks, t.state = .dispatched →
      ∃ t', r'.lookup t.id = some t' ∧ t'.state = .scheduled ∧
        t' = { t with state := .scheduled, dispatchedAt := none } ∧
        (Repo.step {} r' now' (.done t.id e)).2 = .err .notDispatched ∧
        (Repo.step {} r' now' (.cancel t.id)).2 = .ok ∧
        (Repo.step {} r' now' (.dispatch t.id)).2 = .ok) ∧
    (∀ t ∈ r.tasks, t.state ≠ .dispatched → t ∈ r'.tasks) := by
  intro r'
  have hwf : r'.WF := C12_inv_step h trivial
  refine ⟨hwf, ?_, ?_⟩
  · intro t ht hs
    have hl := hwf.lookup_mem (List.mem_map_of_mem ht : _ ∈ r'.tasks)
    simp only [hs, beq_self_eq_true, if_true] at hl
    refine ⟨_, hl, rfl, rfl, ?_, ?_, ?_⟩
    · rw [step_done_spec hwf, hl]
    · simp only [Repo.step]; rw [mutateScheduled_spec hwf, hl]
    · simp only [Repo.step]; rw [mutateScheduled_spec hwf, hl]
  · intro t ht hs
    have hm : _ ∈ r'.tasks := List.mem_map_of_mem ht
    rwa [if_neg (by simpa using hs)] at hm

/-- Non-vacuity: a well-formed state with a dispatched task. -/
example : Ex.repo.WF ∧ Ex.tA ∈ Ex.repo.tasks ∧ Ex.tA.state = .dispatched :=
  ⟨Ex.repo_wf, by decide, rfl⟩

/-- The ghost invariant along every fresh lifecycle-only history: every dispatched task is its
remembered record with only `state` and `dispatched_at` changed. -/
theorem C13_ghost_invariant {hist : List (Time × Op)} (hh : Repo.FreshHist {} {} hist)
    (hl : ∀ x ∈ hist, x.2.isLifecycle = true) :
    let rg := Repo.grun ({}, fun _ => none) hist
    rg.1.WF ∧ ∀ t ∈ rg.1.tasks, t.state = .dispatched →
      ∃ t0, rg.2 t.id = some t0 ∧ t0.state = .scheduled ∧ t0.dispatchedAt = none ∧
        t = { t0 with state := .dispatched, dispatchedAt := t.dispatchedAt } :=
  GhostInv.init.run hh hl

/-- Reverting maps every dispatched task to exactly the record remembered at its last dispatch. -/
theorem C13_revert_record {hist : List (Time × Op)} (hh : Repo.FreshHist {} {} hist)
    (hl : ∀ x ∈ hist, x.2.isLifecycle = true) (now : Time) :
    let rg := Repo.grun ({}, fun _ => none) hist
    rg.1 = Repo.run {} {} hist ∧
    (Repo.step {} rg.1 now .revert).1.tasks =
      rg.1.tasks.map (fun t => if t.state == .dispatched then (rg.2 t.id).getD t else t) ∧
    (∀ t ∈ rg.1.tasks, t.state = .dispatched →
      ∃ t0, rg.2 t.id = some t0 ∧ (Repo.step {} rg.1 now .revert).1.lookup t.id = some t0) := by
  intro rg
  have hinv : GhostInv rg := GhostInv.init.run hh hl
  have key : ∀ t ∈ rg.1.tasks, t.state = .dispatched →
      rg.2 t.id = some { t with state := .scheduled, dispatchedAt := none } := by
    intro t ht hs
    obtain ⟨t0, hg0, hs0, hd0, heq⟩ := hinv.2 t ht hs
    rw [hg0, heq, ← hs0, ← hd0]
  refine ⟨Repo.grun_fst _ _, ?_, ?_⟩
  · show List.map _ _ = _
    apply List.map_congr_left
    intro t ht
    by_cases hs : t.state = .dispatched
    · simp [hs, key t ht hs]
    · simp [hs]
  · intro t ht hs
    refine ⟨_, key t ht hs, ?_⟩
    obtain ⟨t', hl', -, he', -⟩ :=
      (C13_reverted_behaves_scheduled (now := now) (now' := now) (e := none) hinv.1).2.1 t ht hs
    rw [hl', he']

/-- Non-vacuity: `Ex.hist` is a fresh lifecycle-only history after which a task is dispatched, and
its remembered record is the (updated) scheduled record. -/
example : Repo.FreshHist {} {} Ex.hist ∧ (∀ x ∈ Ex.hist, x.2.isLifecycle = true) ∧
    (Repo.grun ({}, fun _ => none) Ex.hist).1.tasks.map (·.state) = [.err, .cancelled, .dispatched] ∧
    ((Repo.grun ({}, fun _ => none) Ex.hist).2 "c").map (·.state) = some .scheduled :=
  ⟨Ex.hist_fresh, by decide, by decide, by decide⟩

/-- `CancelDispatched`: exactly the dispatched tasks become cancelled at `normalize now`. -/
theorem C13_cancel_dispatched {r : Repo} {now : Time} (h : r.WF) :
    let r' := (Repo.step {} r now .cancelDispatched).1
    r'.tasks = r.tasks.map (fun t =>
      if t.state == .dispatched then { t with state := .cancelled, cancelledAt := some (normalize now) }
      else t) ∧
    (Repo.step {} r now .cancelDispatched).2 = .ok ∧
    r'.WF ∧
    (∀ t ∈ r.tasks, t.state = .dispatched →
      r'.lookup t.id = some { t with state := .cancelled, cancelledAt := some (normalize now) }) ∧
    (∀ t ∈ r.tasks, t.state ≠ .dispatched → r'.lookup t.id = some t) ∧
    (∀ t' ∈ r'.tasks, t'.state ≠ .dispatched) := by
  intro r'
  have hwf : r'.WF := C12_inv_step h trivial
  refine ⟨rfl, rfl, hwf, ?_, ?_, ?_⟩
  · intro t ht hs
    simpa [hs] using hwf.lookup_mem (List.mem_map_of_mem ht : _ ∈ r'.tasks)
  · intro t ht hs
    simpa [hs] using hwf.lookup_mem (List.mem_map_of_mem ht : _ ∈ r'.tasks)
  · intro t' ht'
    have : t' ∈ List.map _ r.tasks := ht'
    obtain ⟨t, -, rfl⟩ := List.mem_map.mp this
    by_cases hs : t.state = .dispatched <;> simp [hs]

/-- Non-vacuity on `Ex.repo`: one task is cancelled, the other is kept. -/
example : Ex.repo.WF ∧
    (Repo.step {} Ex.repo 3000000 .cancelDispatched).1.tasks.map (·.state) = [.cancelled, .scheduled] :=
  ⟨Ex.repo_wf, by decide⟩

/-- D8: on the pinned source (`revertClears := false`) the history add, dispatch, revert leaves a
"scheduled" task that still carries `dispatched_at`; mark-as-done then returns no error instead of
`notDispatched`, and the C12 invariant is broken. With the fix the same history is fine. -/
theorem C13_D8_witness :
    -- before the fix: mark-as-done of a reverted task "succeeds" and the invariant is broken
    (Repo.step Ex.d8Flags (Repo.run Ex.d8Flags {} Ex.d8Hist) 4000000 (.done "a" none)).2 = .ok ∧
    ¬ (Repo.run Ex.d8Flags {} Ex.d8Hist).WF ∧
    -- after the fix, on the same history
    (Repo.step {} (Repo.run {} {} Ex.d8Hist) 4000000 (.done "a" none)).2 = .err .notDispatched ∧
    (Repo.run {} {} Ex.d8Hist).WF ∧
    Repo.FreshHist {} {} Ex.d8Hist := by
  refine ⟨?_, ?_, ?_, ?_, ?_⟩
  · decide
  · unfold Repo.WF; decide
  · decide
  · unfold Repo.WF; decide
  · simp [Repo.FreshHist, Ex.d8Hist, Op.fresh]; decide

end Gk
